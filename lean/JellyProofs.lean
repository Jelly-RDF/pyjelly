import JellyProofs.Tables
import JellyProofs.C03
import JellyProofs.C04
import JellyProofs.C05
import JellyProofs.C06
import JellyProofs.C07
import JellyProofs.C08
import JellyProofs.C10
import JellyProofs.C13
import JellyProofs.C18
import JellyProofs.C18Full
import JellyProofs.C20Full
import JellyProofs.C15
import JellyProofs.C01
import JellyProofs.WireRoundTrip
import JellyProofs.C19
import JellyProofs.C01Bytes
import JellyProofs.C14Full
import JellyProofs.C02Full
import JellyProofs.C04Bytes
import JellyProofs.C07Grouped
import JellyProofs.Plugin
import JellyProofs.C18Bytes
import JellyProofs.C20Graph
import JellyProofs.Translated
import JellyProofs.TranslatedC05
import JellyProofs.TranslatedFlows
import JellyProofs.TranslatedFuncs
import JellyProofs.TranslatedEnc
import JellyProofs.TranslatedDec
import JellyProofs.TranslatedStmt
import JellyProofs.TranslatedDStmt
import JellyProofs.TranslatedStream
