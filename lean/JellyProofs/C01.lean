import JellyProofs.C03
import JellyProofs.C04
import JellyProofs.C06
import JellyProofs.C07
/-!
# C01 — generic API round trip is lossless and order-preserving (rows and frames level)

Composition of: C03 (what the writer emits is valid and denotes the input), C04 (the decoder returns
the denotation of every valid stream), C06 (nothing is left in the flow; no empty frame), C07
(framing does not matter). The byte level (wire encoding + framing + detection) is `C01Bytes.lean`.
-/
namespace Jelly

/-- What `parse_jelly_flat` does with an already framed stream (`get_options_and_frames` has found
    the first non-empty frame `first` among `frames`): options from its first row, adapter by
    physical type, one decoder over all frames. Returns the events when nothing raises. -/
def parseFrames (frames : List Frame) (delimited : Bool) : Except PyErr (List Event) :=
  match frames.find? (fun f => !f.rows.isEmpty) with
  | none => .error .conformance
  | some first =>
    match optionsFromFrame first delimited with
    | .error e => .error e
    | .ok opts =>
      match adapterFor opts.physical with
      | .error e => .error e
      | .ok adapter =>
        match DecState.new opts adapter with
        | .error e => .error e
        | .ok d =>
          match decodeFrames true d frames [] with
          | (done, _, none) => .ok done.flatten
          | (_, _, some e) => .error e

/-- `parseFrames` as a function of the row sequence (`decodeAll`, as for `parseFlat`): the options row, then one decoder
    over all rows. -/
theorem parseFrames_rows {fs : List Frame} {o : Options} {rest : List Row}
    (hrows : fs.flatMap (·.rows) = .options o :: rest) (dl : Bool) :
    parseFrames fs dl = (optionsFromFrame { rows := .options o :: rest } dl >>= fun opts =>
      okEvents (decodeAll true (fun _ => true) opts (.options o :: rest)).1
        (decodeAll true (fun _ => true) opts (.options o :: rest)).2) := by
  obtain ⟨first, rs, hfind, hfirst⟩ := first_nonempty hrows
  unfold parseFrames decodeAll decoderOf
  rw [hfind]
  dsimp only
  rw [optionsFromFrame_options hfirst, ← optionsFromFrame_options (f := { rows := .options o :: rest }) rfl]
  cases optionsFromFrame { rows := .options o :: rest } dl with
  | error e => rfl
  | ok opts =>
    dsimp only [bind, Except.bind, Bool.not_true]
    cases adapterFor opts.physical with
    | error e => rfl
    | ok adapter =>
      dsimp only
      cases DecState.new opts adapter with
      | error e => rfl
      | ok d =>
        dsimp only
        rw [← hrows]
        show _ = okEvents (d.decodeRows true (fs.flatMap (·.rows)) []).2.1
          (d.decodeRows true (fs.flatMap (·.rows)) []).2.2
        rw [← okEvents_decodeFrames]
        rcases decodeFrames true d fs [] with ⟨done, part, _ | e⟩ <;> rfl

/-- The reader can hold the writer's three tables: pyjelly's decoder refuses a lookup size above `MAX_LOOKUP_SIZE`
    (`LookupDec.new`). -/
def presetReadable (p : Preset) : Bool :=
  p.maxNames ≤ MAX_LOOKUP_SIZE && p.maxPrefixes ≤ MAX_LOOKUP_SIZE && p.maxDatatypes ≤ MAX_LOOKUP_SIZE

theorem presetReadable_bounds {p : Preset} (hp : presetReadable p = true) :
    p.maxNames ≤ MAX_LOOKUP_SIZE ∧ p.maxPrefixes ≤ MAX_LOOKUP_SIZE ∧ p.maxDatatypes ≤ MAX_LOOKUP_SIZE := by
  simp only [presetReadable, Bool.and_eq_true, decide_eq_true_eq] at hp
  exact ⟨hp.1.1, hp.1.2, hp.2⟩

theorem parseFrames_of_spec {fs : List Frame} {o : Options} {rest : List Row} {st : Spec.State} {evs : List Event}
    (dl : Bool) (hrows : fs.flatMap (·.rows) = .options o :: rest)
    (hsz : o.maxNames ≤ MAX_LOOKUP_SIZE ∧ o.maxPrefixes ≤ MAX_LOOKUP_SIZE ∧ o.maxDatatypes ≤ MAX_LOOKUP_SIZE)
    (hvalid : Spec.runRows (fs.flatMap (·.rows)) = (st, evs, none)) : parseFrames fs dl = .ok evs := by
  rw [hrows] at hvalid
  obtain ⟨opts, adapter, d0, d, ho, ha, hd, hdec⟩ := C04_decoder_refines_spec o rest st evs dl hsz hvalid
  rw [parseFrames_rows hrows, ho]
  simp only [decodeAll, decoderOf, Bool.not_true, Bool.false_eq_true, if_false, ha, hd, hdec, Except.ok_bind]
  rfl

/-- A run on a fresh stream that ended normally: all its rows are in its frames (C06), the options row first. -/
theorem streamFrames_rows {cls : StreamClass} {o : SerOptions} {s : Stream} (hs : Stream.new cls o = .ok s)
    (d : SerData) (herr : (streamFrames s d).err = none) :
    (streamFrames s d).allRows' = (streamFrames s d).frames.flatMap (·.rows) ∧
    ∃ rows, (streamFrames s d).frames.flatMap (·.rows) = s.optionsRow :: rows := by
  have hall : (streamFrames s d).allRows' = (streamFrames s d).frames.flatMap (·.rows) := by
    simp [Run.allRows', C06_nothing_left_in_flow s d herr]
  exact ⟨hall, _, by rw [← hall, streamFrames_exec]; exact exec_fresh_rows hs _⟩

/-- The composition shared by the three stream classes: C03 (`herr`, `hspec`), C06, C04 and C07. -/
theorem roundtrip_core (o : SerOptions) (cls : StreamClass) (s : Stream) (d : SerData)
    (evs : List Event) (hs : Stream.new cls o = .ok s) (hp : presetReadable o.preset = true)
    (herr : (streamFrames s d).err = none)
    (hspec : ∃ st, Spec.runRows (streamFrames s d).allRows' = (st, evs, none))
    (delimited : Bool) :
    (streamFrames s d).err = none ∧ (streamFrames s d).stream.flow.rows = [] ∧
    parseFrames (streamFrames s d).frames delimited = .ok evs := by
  obtain ⟨st, hspec⟩ := hspec
  obtain ⟨hall, rows, hhead⟩ := streamFrames_rows hs d herr
  have hsz := presetReadable_bounds hp
  obtain ⟨-, -, hopts, -⟩ := Stream.new_spec hs
  rw [← hopts] at hsz
  exact ⟨herr, C06_nothing_left_in_flow s d herr,
    parseFrames_of_spec (o := wireOptions s) delimited hhead hsz (by rw [← hall]; exact hspec)⟩

theorem frames_roundtrip (cls : StreamClass) (o : SerOptions) (s : Stream) (stmts : List (List Term))
    (hs : Stream.new cls o = .ok s) (hl : validLogical s.logicalType = true)
    (hp : presetReadable o.preset = true)
    (hwf : ∀ t ∈ stmts, cls.stmtWF t = true) (hfit : ∀ t ∈ stmts, stmtFits o.preset t = true)
    (delimited : Bool) :
    (streamFrames s (.gen stmts)).err = none ∧
    (streamFrames s (.gen stmts)).stream.flow.rows = [] ∧
    parseFrames (streamFrames s (.gen stmts)).frames delimited
      = .ok (stmts.map fun t => Event.stmt (t.map Term.norm)) :=
  have h := stream_sim cls o s (.gen stmts) hs hl (fun _ h => nomatch h) hwf hfit
  roundtrip_core o cls s _ _ hs hp h.1 h.2 delimited

/-- TRIPLES: for every constructible TripleStream whose tables the reader supports (≤ 4096), every
    frame size / flow, delimited or not, and every sequence of well-formed triples each of which
    fits the tables: serialization succeeds, leaves nothing behind, and parsing the frames it
    produced returns exactly the input sequence (same length, order, duplicates; xsd:string ≡ plain). -/
theorem C01_triples_frames (o : SerOptions) (s : Stream) (stmts : List (List Term))
    (hs : Stream.new .triple o = .ok s) (hl : validLogical s.logicalType = true)
    (hp : presetReadable o.preset = true)
    (hwf : ∀ t ∈ stmts, tripleWF t = true) (hfit : ∀ t ∈ stmts, stmtFits o.preset t = true)
    (delimited : Bool) :
    (streamFrames s (.gen stmts)).err = none ∧
    (streamFrames s (.gen stmts)).stream.flow.rows = [] ∧
    parseFrames (streamFrames s (.gen stmts)).frames delimited
      = .ok (stmts.map fun t => Event.stmt (t.map Term.norm)) :=
  frames_roundtrip .triple o s stmts hs hl hp hwf hfit delimited

theorem C01_quads_frames (o : SerOptions) (s : Stream) (stmts : List (List Term))
    (hs : Stream.new .quad o = .ok s) (hl : validLogical s.logicalType = true)
    (hp : presetReadable o.preset = true)
    (hwf : ∀ t ∈ stmts, quadWF t = true) (hfit : ∀ t ∈ stmts, stmtFits o.preset t = true)
    (delimited : Bool) :
    (streamFrames s (.gen stmts)).err = none ∧
    (streamFrames s (.gen stmts)).stream.flow.rows = [] ∧
    parseFrames (streamFrames s (.gen stmts)).frames delimited
      = .ok (stmts.map fun t => Event.stmt (t.map Term.norm)) :=
  frames_roundtrip .quad o s stmts hs hl hp hwf hfit delimited

theorem C01_graphs_frames (o : SerOptions) (s : Stream) (stmts : List (List Term))
    (hs : Stream.new .graph o = .ok s) (hl : validLogical s.logicalType = true)
    (hp : presetReadable o.preset = true)
    (hwf : ∀ t ∈ stmts, quadWF t = true) (hfit : ∀ t ∈ stmts, stmtFits o.preset t = true)
    (delimited : Bool) :
    (streamFrames s (.gen stmts)).err = none ∧
    (streamFrames s (.gen stmts)).stream.flow.rows = [] ∧
    parseFrames (streamFrames s (.gen stmts)).frames delimited
      = .ok (stmts.map fun t => Event.stmt (t.map Term.norm)) :=
  frames_roundtrip .graph o s stmts hs hl hp hwf hfit delimited

/-- `parseFrames` unfolded at its first non-empty frame `first`, when the options row of `first` gives
    `opened.opts`: adapter, decoder state and one `decodeFrames` over all frames, as `parseCore` does after the
    framing stage. `hframes` is not used. That `parseFlat` on the bytes of written frames does what `parseFrames` does
    on the frames is `parseFlat_of_frames` (`Lemmas/ParseBytes.lean`): both are `decodeAll` over the same rows. -/
theorem C01_parseFrames_is_parseCore (opened : Opened) (frames : List Frame) (first : Frame)
    (hfirst : frames.find? (fun f => !f.rows.isEmpty) = some first)
    (hopts : optionsFromFrame first opened.opts.delimited = .ok opened.opts)
    (hframes : opened.frames = (frames, none)) :
    parseFrames frames opened.opts.delimited =
      (match adapterFor opened.opts.physical with
       | .error e => .error e
       | .ok adapter =>
         match DecState.new opened.opts adapter with
         | .error e => .error e
         | .ok d =>
           match decodeFrames true d frames [] with
           | (done, _, none) => .ok done.flatten
           | (_, _, some e) => .error e) := by
  have _ := hframes
  simp only [parseFrames, hfirst, hopts]

end Jelly
