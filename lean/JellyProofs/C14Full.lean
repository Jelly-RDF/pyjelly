import JellyModel
import JellyProofs.C03
import JellyProofs.C18
/-!
# C14 (a)(b) of DESIGN.md §6 — namespace declarations round-trip and never affect statements
# (writer ⊑ spec, with declarations)
# C20 — what was written before a rejection remains a valid, decodable prefix

`C14_triples_sink`/`_quads_sink` are `stream_sim` (StreamSim) at a sink with bindings, as `C03_*` are at a generator.
-/
namespace Jelly

/-- The bindings of a sink as the events a reader must deliver: same prefix, same IRI, same order. -/
def nsEvents (ns : List (String × Term)) : List Event := ns.map fun (p, i) => Event.ns p i

def bindingsWF (ns : List (String × Term)) : Bool := ns.all fun (_, i) => match i with | .iri _ => true | _ => false

theorem bindingsWF_elim {ns : List (String × Term)} (h : bindingsWF ns = true) :
    ∀ b ∈ ns, ∃ i, b.2 = Term.iri i := by
  intro b hb
  have := (List.all_eq_true.mp h) b hb
  obtain ⟨p, v⟩ := b
  cases v <;> simp_all

/-- TRIPLES from a sink with bindings, declarations enabled: the rows written are valid and denote
    first the declarations (in order), then the statements — including when the declarations evict
    statement entries from small tables (each declaration is one IRI and always fits). -/
theorem C14_triples_sink (o : SerOptions) (s : Stream) (sk : Sink)
    (hs : Stream.new .triple o = .ok s) (hl : validLogical s.logicalType = true)
    (hns : o.params.namespaceDeclarations = true) (hb : bindingsWF sk.namespaces = true)
    (hwf : ∀ t ∈ sk.store, tripleWF t = true) (hfit : ∀ t ∈ sk.store, stmtFits o.preset t = true) :
    (streamFrames s (.sink sk)).err = none ∧
    ∃ st, Spec.runRows (streamFrames s (.sink sk)).allRows'
            = (st, nsEvents sk.namespaces ++ sk.store.map (fun t => Event.stmt (t.map Term.norm)), none) := by
  have h := stream_sim .triple o s (.sink sk) hs hl
  rw [hns] at h
  exact h (bindingsWF_elim hb) hwf hfit

theorem C14_quads_sink (o : SerOptions) (s : Stream) (sk : Sink)
    (hs : Stream.new .quad o = .ok s) (hl : validLogical s.logicalType = true)
    (hns : o.params.namespaceDeclarations = true) (hb : bindingsWF sk.namespaces = true)
    (hwf : ∀ t ∈ sk.store, quadWF t = true) (hfit : ∀ t ∈ sk.store, stmtFits o.preset t = true) :
    (streamFrames s (.sink sk)).err = none ∧
    ∃ st, Spec.runRows (streamFrames s (.sink sk)).allRows'
            = (st, nsEvents sk.namespaces ++ sk.store.map (fun t => Event.stmt (t.map Term.norm)), none) := by
  have h := stream_sim .quad o s (.sink sk) hs hl
  rw [hns] at h
  exact h (bindingsWF_elim hb) hwf hfit

def stmtEvents (evs : List Event) : List Event := evs.filter fun e => match e with | .stmt _ => true | .ns _ _ => false

theorem stmtEvents_ns_stmts (ns : List (String × Term)) (l : List (List Term)) :
    stmtEvents (nsEvents ns ++ l.map (fun t => Event.stmt (t.map Term.norm)))
      = l.map (fun t => Event.stmt (t.map Term.norm)) := by
  unfold stmtEvents nsEvents
  rw [List.filter_append]
  have h1 : (ns.map fun (p, i) => Event.ns p i).filter
      (fun e => match e with | .stmt _ => true | .ns _ _ => false) = [] := by
    rw [List.filter_eq_nil_iff]
    intro e he
    obtain ⟨b, _, rfl⟩ := List.mem_map.mp he
    simp
  have h2 : (l.map (fun t => Event.stmt (t.map Term.norm))).filter
      (fun e => match e with | .stmt _ => true | .ns _ _ => false)
      = l.map (fun t => Event.stmt (t.map Term.norm)) := by
    rw [List.filter_eq_self]
    intro e he
    obtain ⟨b, _, rfl⟩ := List.mem_map.mp he
    rfl
  rw [h1, h2, List.nil_append]

/-- C14 (b): enabling declarations never changes the statements read back: the statement events of the
    two streams (option on / option off, everything else equal) are the same list. -/
theorem C14_statements_unaffected (o : SerOptions) (s₁ s₀ : Stream) (sk : Sink)
    (hs₁ : Stream.new .triple { o with params := { o.params with namespaceDeclarations := true } } = .ok s₁)
    (hs₀ : Stream.new .triple { o with params := { o.params with namespaceDeclarations := false } } = .ok s₀)
    (hl : validLogical s₁.logicalType = true) (hb : bindingsWF sk.namespaces = true)
    (hwf : ∀ t ∈ sk.store, tripleWF t = true) (hfit : ∀ t ∈ sk.store, stmtFits o.preset t = true) :
    ∃ st₁ st₀ e₁ e₀,
      Spec.runRows (streamFrames s₁ (.sink sk)).allRows' = (st₁, e₁, none) ∧
      Spec.runRows (streamFrames s₀ (.sink sk)).allRows' = (st₀, e₀, none) ∧
      stmtEvents e₁ = stmtEvents e₀ ∧ stmtEvents e₀ = e₀ := by
  have hlt : s₀.logicalType = s₁.logicalType := by
    have h := Stream.new_nsflag true hs₀
    have h' : Stream.new .triple { o with params := { o.params with namespaceDeclarations := true } }
        = .ok { s₀ with opts := { o with params := { o.params with namespaceDeclarations := true } } } := h
    rw [hs₁] at h'
    injection h' with h'
    rw [h']
  obtain ⟨-, -, hopts₀, -⟩ := Stream.new_spec hs₀
  obtain ⟨_, st₁, h₁⟩ := C14_triples_sink _ s₁ sk hs₁ hl rfl hb hwf hfit
  obtain ⟨_, st₀, h₀⟩ := C03_triples _ s₀ sk.store hs₀ (by rw [hlt]; exact hl) hwf hfit
  rw [← streamFrames_sink_eq_gen s₀ sk (by rw [hopts₀]; rfl)] at h₀
  refine ⟨st₁, st₀, _, _, h₁, h₀, ?_, ?_⟩
  · rw [stmtEvents_ns_stmts]; exact (stmtEvents_ns_stmts [] _).symm
  · exact stmtEvents_ns_stmts [] _

/-- A caller that feeds statements one by one and stops at the first exception, collecting the frames handed out. -/
def feedUntilReject (s : Stream) : List (List Term) → List Frame → Stream × List Frame × Option PyErr
  | [], acc => (s, acc, none)
  | t :: ts, acc =>
    match s.triple .stopIteration t with
    | (s', .error e) => (s', acc, some e)
    | (s', .ok fr) => feedUntilReject s' ts (acc ++ fr.toList)

theorem feedUntilReject_eq (s : Stream) (ts : List (List Term)) (acc : List Frame) :
    feedUntilReject s ts acc = Stream.graphTriples .stopIteration s ts acc := by
  induction ts generalizing s acc with
  | nil => rfl
  | cons t ts ih =>
    simp only [feedUntilReject, Stream.graphTriples]
    rcases h : Stream.triple .stopIteration s t with ⟨s', e | fr⟩
    · rfl
    · exact ih _ _

theorem feedUntilReject_exec (s : Stream) (ts : List (List Term)) :
    feedUntilReject s ts [] =
      ((Run.exec { stream := s } (stmtCmds (tripleOp .stopIteration) ts)).stream,
       (Run.exec { stream := s } (stmtCmds (tripleOp .stopIteration) ts)).frames,
       (Run.exec { stream := s } (stmtCmds (tripleOp .stopIteration) ts)).err) := by
  rw [feedUntilReject_eq, Stream.graphTriples_stmtLoop, Stream.triple_stepOf, stmtLoop_exec]

theorem feed_follows {o : SerOptions} {s : Stream} (hs : Stream.new .triple o = .ok s) (pre : List (List Term))
    (hwf : ∀ t ∈ pre, tripleWF t = true) :
    Follows (RunsToN False) (InStep False o.preset (wireOptions s) none) (InStep False o.preset (wireOptions s) none)
      (stmtCmds (tripleOp .stopIteration) pre) (pre.map fun t => Event.stmt (t.map Term.norm))
      (∀ t ∈ pre, TermFits o.preset t) :=
  (tripleCmds_follows False (posn_of_valid (Stream.new_spec hs).valid) (Or.inl ⟨wireOptions_physical hs, rfl⟩)
    .stopIteration pre hwf (fun h => h.elim)).of_evs_eq (by simp)

/-- A driver feeds statements one by one until the first rejection. If all statements before it are well-formed,
    then at the moment of the rejection everything the stream has handed out or buffered (frames so far + flow) is
    accepted by the reference decoder and denotes exactly the accepted statements, in order — the rejected statement
    has left no row. (`hfit` is not used: `hpre` already says the prefix was accepted.) -/
theorem C20_prefix_valid (o : SerOptions) (s : Stream) (pre : List (List Term)) (bad : List Term)
    (hs : Stream.new .triple o = .ok s) (hl : validLogical s.logicalType = true)
    (hwf : ∀ t ∈ pre, tripleWF t = true) (hfit : ∀ t ∈ pre, stmtFits o.preset t = true)
    (s1 s' : Stream) (frames : List Frame) (e : PyErr)
    (hpre : feedUntilReject s.enroll pre [] = (s1, frames, none))
    (hbad : s1.triple .stopIteration bad = (s', .error e)) :
    ∃ st, Spec.runRows (frames.flatMap (·.rows) ++ s'.flow.rows)
            = (st, pre.map (fun t => Event.stmt (t.map Term.norm)), none) := by
  have _ := hfit
  have hfl := ((C20_rejection_leaves_flow_untouched .stopIteration s1 s' bad e).1 hbad).1
  obtain ⟨evs, st, -, h1, -, h2, -⟩ := exec_fresh_total False hs hl _
    ((feed_follows hs pre hwf).mono_pre fun _ _ h => h.1)
  rw [feedUntilReject_exec] at hpre
  simp only [Prod.mk.injEq] at hpre
  obtain rfl := h2 hpre.2.2
  exact ⟨st, by simpa [Run.allRows', rowsOf, hpre.1, hpre.2.1, hfl] using h1⟩

/-- The accepted prefix is never rejected: under the hypotheses the driver gets through `pre`. -/
theorem C20_prefix_accepted (o : SerOptions) (s : Stream) (pre : List (List Term))
    (hs : Stream.new .triple o = .ok s)
    (hwf : ∀ t ∈ pre, tripleWF t = true) (hfit : ∀ t ∈ pre, stmtFits o.preset t = true) :
    ∃ s1 frames, feedUntilReject s.enroll pre [] = (s1, frames, none) := by
  obtain ⟨-, -, -, -, -, hf⟩ := feed_follows hs pre hwf s.enc _ (fresh_inStep False hs)
  rw [feedUntilReject_exec, Run.exec_err rfl, s.enroll_enc,
    hf fun t ht => .of_stmtFits (Stream.new_spec hs).valid (hfit t ht)]
  exact ⟨_, _, rfl⟩

end Jelly
