import JellyGenerated.LookupGen
import JellyProofs.Lemmas.Pin
import JellyProofs.Lemmas.PyExec
/-!
# The TRANSLATED lookup code equals the hand-written model

`JellyGenerated/LookupGen.lean` is produced from `pyjelly/serialize/lookup.py` and `pyjelly/parse/lookup.py`
by `harness/gen_translate.py` on every run (Python `ast` → Lean, statement by statement, in the monad of
`JellyModel/PyPrelude.lean`). Each theorem below states that a generated method, run on the model's own record
of the object's attributes, has exactly the outcome — result or exception class — and the final attributes of
the model function that the property theorems (C05, C03, C18, C19, C20 …) are proved about. So for this part
of the code the tie between model and source is a kernel-checked equality that is re-established from the
source text on every run, not a sampled comparison.

Names, here and in the other `Translated*` files, by the shape of the statement:
* `x_exec`: an equation about `(…).exec s` itself: result and attributes, the attributes kept on a raise.
* `x_eq`: the same read through a view: `outcome` (writer side; attributes dropped on a raise), `swap` (the reader
  model's order; `decode_datatype_eq` has `.map some` on its right side), `okState` (`ingest_*_entry_eq`;
  `assign_entry_eq` has that match written out; `ingest_rows_eq` states the model's `decodeRow` through them),
  `litView` (`encode_literal_eq`, a conjunction with the fact about `lex`). Six `_eq` are `_exec`-shaped:
  `start_row_eq`, `end_row_eq`, `validate_stream_options_eq`, `stream_enroll_eq`, `graph_loop_eq`, `stream_graph_eq`.
  Where no attributes are involved `_eq` is a plain equation: the pure functions of `TranslatedFuncs`, and in
  `TranslatedC05` `genEnc_eq` … `jointInitGen_eq` (the joint run with the translated methods is the model's).
* `x_app` (`encode_iri_app` only): `_exec`-shaped, with the method applied to the attributes instead of `.exec`.
* no suffix: constructors (`lookup_new`, `lookup_enc_new`, `lookup_dec_new`, `x_init`: about `construct (…__init__ …)`),
  the 24 flow methods (`FlowAgrees`, which is `_exec`-shaped; their four helpers end in `_agrees`), and the instances
  of `stream_triple_eq` / `stream_quad_eq` / `stream_graph_eq` for a flow class (`stream_triple_manual`, …).
* `x_blocks`: a generated method restated with a block (`slotBlock`, `whenSet`), by `rfl`; `x_spec`: an equation
  between two model functions; `x_like`: the model's own function meets `EncLike` / `DecLike`.

Side conditions, all discharged where the functions are used:
* `insert`/`encode_entry_index`: an evicting table is not empty (true of every table built by the constructor:
  `Lookup.WFm`) — on an empty evicting table Python's `next(iter({}))` raises `StopIteration` where the model
  says `KeyError`; and `insert` is only called with an absent key (its `assert`).
* `at` with index 0 would be Python's `data[-1]`: outside the translated fragment (`natSub`), never reached by
  the three `decode_*_term_index` callers, which are proved equal to the model unconditionally.
-/
namespace Jelly.Translated
open Jelly Jelly.Py

theorem truthy_nat (n : Nat) : truthy n = !(n == 0) := rfl
theorem truthy_bool (b : Bool) : truthy b = b := rfl
theorem truthy_str (s : String) : truthy s = !(s == "") := rfl

theorem odContains_find (l : Lookup) (k : String) : odContains l.data k = (l.find? k).isSome := rfl

theorem odContains_tail {e : String × Nat} {d : OD} {k : String} (h : odContains (e :: d) k = false) :
    odContains d k = false := by
  simp only [odContains, List.find?_cons] at h ⊢
  split at h
  · cases h
  · exact h

theorem odSet_absent {d : OD} {k : String} (h : odContains d k = false) (v : Nat) : odSet d k v = d ++ [(k, v)] := by
  simp only [odSet, h, Bool.false_eq_true, if_false]

theorem odFirstKey_cons (e : String × Nat) (d : OD) : odFirstKey (e :: d) = .ok e.1 := rfl
theorem odPopFirst_cons (e : String × Nat) (d : OD) : odPopFirst (e :: d) = .ok (e, d) := rfl

/-- `if self.pinned is not None: self.pinned.add(key)` as a statement of its own -/
@[py_exec ↓ high] theorem exec_pin (k : String) (l : Lookup) :
    (do if ((← get).pinned).isSome then
          let t ← liftE (setAdd (← get).pinned k)
          modify fun s => { s with pinned := t } : M Lookup PUnit).exec l = (.ok ⟨⟩, l.pin k) := by
  rcases l with ⟨ms, data, ev, _ | ps⟩ <;> rfl

/-- `self.pinned is not None and k0 in self.pinned` -/
theorem pinned_test (l : Lookup) (k0 : String) :
    (if l.pinned.isSome = true then (setContains l.pinned k0, l) else (.ok false, l)) = (.ok (l.isPinned k0), l) := by
  rcases l with ⟨ms, data, ev, _ | ps⟩ <;> rfl

theorem make_last_to_evict_exec (l : Lookup) (k : String) :
    (Gen.Lookup.make_last_to_evict k).exec l
      = match l.moveToEnd k with
        | some l' => (.ok (), l')
        | none => (.error .keyError, l) := by
  unfold Gen.Lookup.make_last_to_evict Lookup.moveToEnd Lookup.find? odMoveToEnd
  simp only [py_exec]
  cases List.find? (fun x => x.fst == k) l.data with
  | none => rfl
  | some e => simp only [py_exec]

theorem make_last_to_evict_eq (l : Lookup) (k : String) :
    outcome ((Gen.Lookup.make_last_to_evict k).exec l)
      = match l.moveToEnd k with
        | some l' => .ok (l', ())
        | none => .error .keyError := by
  rw [make_last_to_evict_exec]; cases l.moveToEnd k <;> rfl

/-- `insert`, with the attributes after an exception: a refused insertion leaves the table untouched -/
theorem insert_exec (l : Lookup) (k : String) (habs : l.find? k = none) (hne : l.evicting = true → l.data ≠ []) :
    (Gen.Lookup.insert k).exec l
      = match l.insert k with
        | .ok (l', i) => (.ok i, l')
        | .error e => (.error e, l) := by
  have hc : odContains l.data k = false := by rw [odContains_find, habs]; rfl
  unfold Gen.Lookup.insert
  -- the model's paths; on each, the method is run with the tests decided
  fun_cases Lookup.insert l k
  case case1 hm => simp only [py_exec, ↓reduceIte, truthy_nat, hm]  -- size 0: IndexError
  case case2 _ he hd => exact absurd hd (hne he)  -- full and empty: excluded by `hne`
  case case3 hm he k0 i rest hd hp =>  -- full, victim pinned: refused
    rw [hd] at hc
    simp only [py_exec, ↓reduceIte, truthy_nat, truthy_bool, hm, hc, he, hd, odFirstKey_cons, pinned_test, hp]
  case case4 hm he k0 i rest hd hp =>  -- full: the oldest entry goes, its id is reused
    rw [hd] at hc
    simp only [py_exec, ↓reduceIte, truthy_nat, truthy_bool, hm, hc, he, hd, odFirstKey_cons, pinned_test, hp,
      odPopFirst_cons, odSet_absent (odContains_tail hc)]
    cases l.pinned <;> rfl
  case case5 hm he i =>  -- room left: appended with the next id
    simp only [py_exec, ↓reduceIte, truthy_nat, truthy_bool, hm, hc, he, odSet_absent hc]
    cases l.pinned <;> rfl

theorem insert_eq (l : Lookup) (k : String) (habs : l.find? k = none) (hne : l.evicting = true → l.data ≠ []) :
    outcome ((Gen.Lookup.insert k).exec l) = l.insert k := by
  rw [insert_exec l k habs hne]
  rcases l.insert k with _ | ⟨l', i⟩ <;> rfl

theorem moveToEnd_absent {l : Lookup} {k : String} (h : l.moveToEnd k = none) : l.find? k = none := by
  unfold Lookup.moveToEnd at h
  split at h
  · assumption
  · cases h

theorem moveToEnd_find {l l' : Lookup} {k : String} (h : l.moveToEnd k = some l') : ∃ p, l'.find? k = some p := by
  unfold Lookup.moveToEnd at h
  split at h
  · cases h
  · rename_i e he
    cases h
    refine Option.isSome_iff_exists.mp ?_
    -- the entry found is the one appended
    rw [Lookup.find?, Lookup.pin_data, List.find?_append, Option.isSome_or, Bool.or_eq_true]
    exact .inr (by simp [List.find?_some he])

theorem entry_index_exec (e : LookupEnc) (k : String) (hne : e.lookup.evicting = true → e.lookup.data ≠ []) :
    (Gen.LookupEncoder.encode_entry_index k).exec e = execLike (e.entryIndex k) e := by
  unfold Gen.LookupEncoder.encode_entry_index LookupEnc.entryIndex
  simp only [py_exec, make_last_to_evict_exec]
  cases hm : e.lookup.moveToEnd k with
  | some l' => simp only [py_exec]
  | none =>
    simp only [py_exec, ↓reduceIte, beq_self_eq_true, insert_exec e.lookup k (moveToEnd_absent hm) hne]
    cases e.lookup.insert k with
    | error err => simp only [py_exec]
    | ok p => simp only [py_exec, beq_iff_eq]; split <;> rfl

theorem entry_index_eq (e : LookupEnc) (k : String) (hne : e.lookup.evicting = true → e.lookup.data ≠ []) :
    outcome ((Gen.LookupEncoder.encode_entry_index k).exec e) = e.entryIndex k := by
  rw [entry_index_exec e k hne, outcome_execLike]

theorem term_index_exec (e : LookupEnc) (v : String) :
    (Gen.LookupEncoder.encode_term_index v).exec e = execLike (e.termIndex v) e := by
  unfold Gen.LookupEncoder.encode_term_index LookupEnc.termIndex
  simp only [py_exec, make_last_to_evict_exec]
  cases hm : e.lookup.moveToEnd v with
  | none => simp only [py_exec]
  | some l' =>
    obtain ⟨p, hf⟩ := moveToEnd_find hm
    have : odGet l'.data v = .ok p.2 := by rw [odGet, show List.find? _ l'.data = some p from hf]
    simp only [py_exec, this, hf]

attribute [py_exec] term_index_exec

theorem term_index_eq (e : LookupEnc) (v : String) :
    outcome ((Gen.LookupEncoder.encode_term_index v).exec e) = e.termIndex v := by
  rw [term_index_exec, outcome_execLike]

theorem name_term_index_exec (e : LookupEnc) (v : String) :
    (Gen.LookupEncoder.encode_name_term_index v).exec e = execLike (e.nameTermIndex v) e := by
  unfold Gen.LookupEncoder.encode_name_term_index LookupEnc.nameTermIndex
  simp only [py_exec]
  cases e.termIndex v with
  | error err => simp only [py_exec]
  | ok p => simp only [py_exec]

theorem name_term_index_eq (e : LookupEnc) (v : String) :
    outcome ((Gen.LookupEncoder.encode_name_term_index v).exec e) = e.nameTermIndex v := by
  rw [name_term_index_exec, outcome_execLike]

theorem datatype_term_index_exec (e : LookupEnc) (v : String) :
    (Gen.LookupEncoder.encode_datatype_term_index v).exec e = execLike (e.datatypeTermIndex v) e := by
  unfold Gen.LookupEncoder.encode_datatype_term_index LookupEnc.datatypeTermIndex
  simp only [py_exec]

theorem datatype_term_index_eq (e : LookupEnc) (v : String) :
    outcome ((Gen.LookupEncoder.encode_datatype_term_index v).exec e) = e.datatypeTermIndex v := by
  rw [datatype_term_index_exec, outcome_execLike]

theorem prefix_term_index_exec (e : LookupEnc) (v : String) :
    (Gen.LookupEncoder.encode_prefix_term_index v).exec e = execLike (e.prefixTermIndex v) e := by
  unfold Gen.LookupEncoder.encode_prefix_term_index LookupEnc.prefixTermIndex
  simp only [py_exec, truthy_str]
  rcases e.termIndex v with _ | ⟨e', cur⟩ <;> simp only [py_exec]

theorem prefix_term_index_eq (e : LookupEnc) (v : String) :
    outcome ((Gen.LookupEncoder.encode_prefix_term_index v).exec e) = e.prefixTermIndex v := by
  rw [prefix_term_index_exec, outcome_execLike]

theorem lookup_new (n : Nat) : construct (Gen.Lookup.__init__ n) = .ok (Lookup.new n) :=
  construct_ok rfl

theorem lookup_enc_new (n : Nat) : construct (Gen.LookupEncoder.__init__ n) = .ok (LookupEnc.new n) := by
  apply construct_ok
  simp only [Gen.LookupEncoder.__init__, py_exec, lookup_new]
  rfl

theorem lookup_dec_new (n : Nat) : construct (Gen.LookupDecoder.__init__ n) = LookupDec.new n := by
  unfold Gen.LookupDecoder.__init__ LookupDec.new construct
  by_cases h : n > 4096 <;> simp only [py_exec, ↓reduceIte, h, decide_true, decide_false, MAX_LOOKUP_SIZE, dqNew,
    List.length_replicate, Nat.sub_self, List.drop_zero]

theorem natSub_of_le {a b : Nat} (h : b ≤ a) : natSub a b = .ok (a - b) := if_pos h

theorem assign_entry_eq (d : LookupDec) (index : Nat) (v : String) :
    (match (Gen.LookupDecoder.assign_entry index v).exec d with
     | (.ok _, d') => .ok d'
     | (.error e, _) => .error e) = d.assignEntry index v := by
  unfold Gen.LookupDecoder.assign_entry LookupDec.assignEntry
  by_cases hz : index = 0
  · subst hz
    by_cases hl : d.lastAssigned + 1 - 1 < d.data.length <;>
      simp only [py_exec, ↓reduceIte, beq_self_eq_true, gt_iff_lt, Nat.zero_lt_succ, decide_true,
        natSub_of_le (Nat.succ_pos _), dqSet, hl]
  · have h0 : 0 < index := Nat.pos_of_ne_zero hz
    by_cases hl : index - 1 < d.data.length <;>
      simp only [py_exec, ↓reduceIte, beq_iff_eq, hz, gt_iff_lt, h0, decide_true, natSub_of_le h0, dqSet, hl]

theorem at_eq (d : LookupDec) (index : Nat) (h : index ≠ 0) :
    swap ((Gen.LookupDecoder.at index).exec d) = d.at index := by
  unfold Gen.LookupDecoder.at LookupDec.at
  simp only [py_exec, natSub_of_le (Nat.pos_of_ne_zero h), dqGet, beq_iff_eq, h, if_false]
  rcases d.data[index - 1]? with _ | _ | s <;> rfl

theorem at_exec (d : LookupDec) (index : Nat) (h : index ≠ 0) :
    (Gen.LookupDecoder.at index).exec d = ((d.at index).2, (d.at index).1) :=
  swap_exec (at_eq d index h)

theorem pyOr_nat (a b : Nat) : pyOr a b = if a != 0 then a else b := rfl

/-- `at` behind its guard: the three callers test for 0 first -/
theorem at_guarded (d : LookupDec) (a : Nat) (x : Except PyErr String × LookupDec) :
    (if (a == 0) = true then x else (Gen.LookupDecoder.at a).exec d)
      = if (a == 0) = true then x else ((d.at a).2, (d.at a).1) := by
  split
  · rfl
  · rename_i h
    exact at_exec d a (by simpa using h)

theorem decode_prefix_eq (d : LookupDec) (index : Nat) :
    swap ((Gen.LookupDecoder.decode_prefix_term_index index).exec d) = d.prefixTerm index := by
  unfold Gen.LookupDecoder.decode_prefix_term_index LookupDec.prefixTerm
  simp only [py_exec, pyOr_nat, at_guarded]
  generalize (if (index != 0) = true then index else d.lastReused) = a
  split <;> rfl

theorem decode_name_eq (d : LookupDec) (index : Nat) :
    swap ((Gen.LookupDecoder.decode_name_term_index index).exec d) = d.nameTerm index := by
  unfold Gen.LookupDecoder.decode_name_term_index LookupDec.nameTerm
  simp only [py_exec, pyOr_nat, at_guarded]
  generalize (if (index != 0) = true then index else d.lastReused + 1) = a
  split <;> rfl

theorem decode_datatype_eq (d : LookupDec) (index : Nat) :
    swap ((Gen.LookupDecoder.decode_datatype_term_index index).exec d)
      = ((d.datatypeTerm index).1, (d.datatypeTerm index).2.map some) := by
  unfold Gen.LookupDecoder.decode_datatype_term_index LookupDec.datatypeTerm
  simp only [py_exec]
  split
  · rfl
  · rename_i h
    rw [at_exec d index (by simpa using h)]
    rcases d.at index with ⟨d', _ | _⟩ <;> rfl

/-- the side condition of `insert_eq` / `entry_index_eq` is met by a full table -/
example : ({ maxSize := 1, data := [("a", 1)], evicting := true } : Lookup).evicting = true →
    ({ maxSize := 1, data := [("a", 1)], evicting := true } : Lookup).data ≠ [] := by simp

end Jelly.Translated
