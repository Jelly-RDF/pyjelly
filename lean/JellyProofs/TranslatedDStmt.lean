import JellyGenerated.DStmtGen
import JellyProofs.Lemmas.PyExec
/-!
# The TRANSLATED statement level of the reader equals the model

`JellyGenerated/DStmtGen.lean` is produced from `Decoder.decode_statement` / `decode_triple` / `decode_quad`
(`pyjelly/parse/decode.py`) by `harness/gen_translate_dstmt.py` on every run: a slot that is set is decoded and
remembered, a slot that is not set is the repeated term (KeyError when there is none). The term dispatch `decode_term`
is the parameter `dec`; the theorems hold for every `dec` that behaves like the model's `DecState.decodeTerm`
(`DecLike`).
-/
namespace Jelly.Translated
open Jelly Jelly.Py

/-- the term decoder handed to the translated functions (`decode_term`) behaves like the model's `decodeTerm` -/
def DecLike (quoted : Bool) (dec : WTerm → M DecState Term) : Prop :=
  ∀ w d, outcome ((dec w).exec d) = d.decodeTerm quoted w

/-! ## The `for` loop: one round, then induction over the keys -/

theorem outcome_andThen {σ α β : Type} (r : Except PyErr α × σ) (k : α → M σ β) :
    outcome (andThen r k) = (outcome r).bind (fun p => outcome ((k p.2).exec p.1)) := by
  rcases r with ⟨_ | _, _⟩ <;> rfl

/-- `for k in ks: acc.append(step(k))` in the model's terms: the results in order, ended by the first refusal -/
def collect {σ κ τ : Type} (step : κ → σ → Except PyErr (σ × τ)) : List κ → σ → Except PyErr (σ × List τ)
  | [], s => .ok (s, [])
  | k :: ks, s => (step k s).bind fun p => (collect step ks p.1).map fun q => (q.1, p.2 :: q.2)

theorem outcome_forIn_append {σ κ τ : Type} (f : κ → List τ → M σ (ForInStep (List τ)))
    (step : κ → σ → Except PyErr (σ × τ))
    (hf : ∀ k b s, outcome ((f k b).exec s) = (step k s).map fun p => (p.1, .yield (b ++ [p.2]))) :
    ∀ ks b s, outcome ((forIn ks b f).exec s) = (collect step ks s).map fun q => (q.1, b ++ q.2)
  | [], b, s => by simp [collect, Except.map, outcome, py_exec]
  | k :: ks, b, s => by
    rw [List.forIn_cons, exec_bind, outcome_andThen, hf, collect]
    cases step k s with
    | error e => rfl
    | ok p =>
      simp only [Except.map, Except.bind, outcome_forIn_append f step hf ks]
      cases collect step ks p.1 <;> simp

/-- `self.repeated_terms.get(k)`: the repeated term of slot `k`, if there is one (`repGet` is its raising form) -/
def repOf (r : Repeated) : SlotName → Option Term
  | .subject => r.s | .predicate => r.p | .object => r.o | .graph => r.g

theorem repGet_eq (r : Repeated) (k : SlotName) :
    repGet r k = match repOf r k with | some t => .ok t | none => .error .keyError := by
  cases k <;> rfl

theorem repSet_repOf {r : Repeated} {k : SlotName} {t : Term} (h : repOf r k = some t) : repSet r k t = r := by
  cases k <;> cases r <;> simp_all [repOf, repSet]

/-- one round of the loop of `decode_statement` in the model's terms: the slot decoded (`decodeSlot`), then remembered
    -/
def slotStep (quoted : Bool) (m : PStmt) (k : SlotName) (d : DecState) : Except PyErr (DecState × Term) :=
  (d.decodeSlot quoted (repOf d.rep k) (pstmtGet m k)).map fun p => ({ p.1 with rep := repSet p.1.rep k p.2 }, p.2)

theorem decode_statement_eq (quoted : Bool) (dec : WTerm → M DecState Term) (hdec : DecLike quoted dec) (m : PStmt)
    (ks : List SlotName) (d : DecState) :
    outcome ((Gen.Decoder.decode_statement dec m ks).exec d) = collect (slotStep quoted m) ks d := by
  unfold Gen.Decoder.decode_statement
  rw [bind_pure, outcome_forIn_append _ (slotStep quoted m)]
  · cases collect (slotStep quoted m) ks d <;> simp [Except.map]
  · intro k b d
    simp only [slotStep, DecState.decodeSlot]
    cases hw : pstmtGet m k with
    | some w =>
      simp only [py_exec, ↓reduceIte, Option.isSome_some, optGet, outcome_andThen, hdec w d]
      cases d.decodeTerm quoted w <;> rfl
    | none =>
      simp only [py_exec, ↓reduceIte, Option.isSome_none, repGet_eq]
      cases hr : repOf d.rep k with
      | none => rfl
      | some t => simp [py_exec, outcome, Except.map, repSet_repOf hr]

/-- `decode_triple`: each slot that is set is decoded and remembered, each slot that is not is the repeated term -/
theorem decode_triple_eq (quoted : Bool) (dec : WTerm → M DecState Term) (hdec : DecLike quoted dec)
    (d : DecState) (m : PStmt) :
    outcome ((Gen.Decoder.decode_triple dec m).exec d)
      = (d.decodeSpo quoted m.s m.p m.o).map (fun r => (r.1, [r.2.1, r.2.2.1, r.2.2.2])) := by
  unfold Gen.Decoder.decode_triple
  rw [decode_statement_eq quoted dec hdec]
  fun_cases DecState.decodeSpo quoted d m.s m.p m.o <;>
    simp +zetaDelta only [collect, slotStep, pstmtGet, repOf, repSet, Except.map, Except.bind, *]

/-- `decode_quad`: the three slots of `decodeSpo`, then the graph slot under the same rule -/
theorem decode_quad_eq (quoted : Bool) (dec : WTerm → M DecState Term) (hdec : DecLike quoted dec)
    (d : DecState) (m : PStmt) :
    outcome ((Gen.Decoder.decode_quad dec m).exec d)
      = match d.decodeSpo quoted m.s m.p m.o with
        | .error e => .error e
        | .ok (d', ts, tp, to) =>
          match d'.decodeSlot quoted d'.rep.g m.g with
          | .error e => .error e
          | .ok (d'', tg) => .ok ({ d'' with rep := { d''.rep with g := some tg } }, [ts, tp, to, tg]) := by
  unfold Gen.Decoder.decode_quad
  rw [decode_statement_eq quoted dec hdec]
  fun_cases DecState.decodeSpo quoted d m.s m.p m.o <;>
    simp +zetaDelta only [collect, slotStep, pstmtGet, repOf, repSet, Except.map, Except.bind, *]
  cases DecState.decodeSlot quoted _ _ m.g <;> rfl

/-- the hypothesis is satisfiable: the model's own `decodeTerm`, as a method -/
def modelDec (quoted : Bool) : WTerm → M DecState Term :=
  fun w => ExceptT.mk (fun d => match d.decodeTerm quoted w with
    | .ok (d', t) => (.ok t, d')
    | .error e => (.error e, d))

theorem modelDec_like (quoted : Bool) : DecLike quoted (modelDec quoted) := by
  intro w d
  show outcome (match d.decodeTerm quoted w with
    | .ok (d', t) => (.ok t, d')
    | .error e => (.error e, d)) = _
  cases d.decodeTerm quoted w <;> rfl

end Jelly.Translated
