import JellyModel
import JellyProofs.Lemmas.RowBracket
import JellyProofs.Lemmas.SerRows
/-!
# C18 — a statement too big for the lookup tables is refused, not corrupted
# C20 — a rejected statement never poisons the rest of the stream

The properties themselves are `C18Full.lean`, `C20Full.lean`, `C20Graph.lean`. This file holds the regression
witnesses of two repaired defects as kernel-checked test vectors (replayed on the real code by the checks), and the
facts about one rejected statement call that the full proofs and `C14Full.lean` use.
-/
namespace Jelly

/-- Rows written for `stmts` by a fresh TripleStream with the given preset (generator input). -/
def tripleRows (p : Preset) (stmts : List (List Term)) : Option (List Row) :=
  match Stream.new .triple { preset := p, params := { generalized := true, rdfStar := true } } with
  | .ok s =>
    let r := streamFrames s (.gen stmts)
    if r.err.isNone then some (r.frames.flatMap (·.rows)) else none
  | .error _ => none

def decodeOf (rows : Option (List Row)) : Option (List Event × Option (Nat × Spec.Violation)) :=
  rows.map fun r => (Spec.runRows r).2

/-- The exception a fresh TripleStream ends with on `stmts` (generator input), if any. -/
def tripleErr (p : Preset) (stmts : List (List Term)) : Option PyErr :=
  match Stream.new .triple { preset := p, params := { generalized := true, rdfStar := true } } with
  | .ok s => (streamFrames s (.gen stmts)).err
  | .error e => some e

/-- Regression witnesses (`fixed: C18-in-statement-eviction`): statements that used to be written WITHOUT error and
    decoded to different IRIs / datatypes (the least recently used entry was evicted although the same row still
    referred to it) are refused with `JellyConformanceError`.
    Prefix table of one slot, one triple with three different namespaces. -/
theorem C18_regression_prefix :
    stmtFits { maxNames := 8, maxPrefixes := 1, maxDatatypes := 1 }
        [.iri "http://a/x", .iri "http://b/y", .iri "http://c/z"] = false ∧
    tripleErr { maxNames := 8, maxPrefixes := 1, maxDatatypes := 1 }
        [[.iri "http://a/x", .iri "http://b/y", .iri "http://c/z"]] = some .conformance := by
  decide +kernel

/-- Datatype table of one slot, two differently typed literals in one statement. -/
theorem C18_regression_datatype :
    stmtFits { maxNames := 8, maxPrefixes := 8, maxDatatypes := 1 }
        [.lit "1" none (some "urn:a"), .iri "http://p/p", .lit "2" none (some "urn:b")] = false ∧
    tripleErr { maxNames := 8, maxPrefixes := 8, maxDatatypes := 1 }
        [[.lit "1" none (some "urn:a"), .iri "http://p/p", .lit "2" none (some "urn:b")]] = some .conformance := by
  decide +kernel

/-- Name table of eight slots, quoted triples bringing the statement to nine distinct names. -/
theorem C18_regression_name :
    let st : List Term :=
      [.quoted (.iri "http://n/1") (.iri "http://n/2") (.quoted (.iri "http://n/3") (.iri "http://n/4") (.iri "http://n/5")),
       .iri "http://n/6",
       .quoted (.iri "http://n/7") (.iri "http://n/8") (.iri "http://n/9")]
    stmtFits { maxNames := 8, maxPrefixes := 8, maxDatatypes := 8 } st = false ∧
    tripleErr { maxNames := 8, maxPrefixes := 8, maxDatatypes := 8 } [st] = some .conformance := by
  decide +kernel

/-- The same statements one slot larger are written and decode to themselves (the refusal is not
    over-eager). -/
theorem C18_regression_fits :
    decodeOf (tripleRows { maxNames := 8, maxPrefixes := 3, maxDatatypes := 1 }
        [[.iri "http://a/x", .iri "http://b/y", .iri "http://c/z"]])
      = some ([.stmt [.iri "http://a/x", .iri "http://b/y", .iri "http://c/z"]], none) := by
  decide +kernel

/-- The three statements of the witness: the second is rejected (unsupported object) AFTER its
    subject and predicate were encoded. -/
def c20Ops : List (List Term) :=
  [[.iri "http://x/a1", .iri "http://x/p1", .iri "http://x/o1"],
   [.iri "http://x/a2", .iri "http://x/p2", .unsupported],
   [.iri "http://x/a2", .iri "http://x/p2", .iri "http://x/o3"]]

/-- Catch-and-continue driver: feed statements one by one, ignore rejections, collect rows. -/
def catchAndContinue (s : Stream) : List (List Term) → List Bool → Stream × List Bool
  | [], acc => (s, acc)
  | t :: ts, acc =>
    match s.triple .stopIteration t with
    | (s', .error _) => catchAndContinue s' ts (acc ++ [false])
    | (s', .ok _) => catchAndContinue s' ts (acc ++ [true])

/-- The run of the witness: accepted flags, what the rows in the flow denote, violation if any. -/
def c20Run : Option (List Bool × List Event × Option (Nat × Spec.Violation)) :=
  match Stream.new .triple { frameSize := 250, preset := { maxNames := 8, maxPrefixes := 8, maxDatatypes := 8 } } with
  | .error _ => none
  | .ok s0 =>
    let r := catchAndContinue s0.enroll c20Ops []
    some (r.2, (Spec.runRows r.1.flow.rows).2)

/-- Regression witness (`fixed: C20-state-after-rejection`; the run used to be `[true, false, true]` with the third
    statement `(a2, p2, o3)` decoded as `(a1, p1, o3)`): `(a2, p2, <unsupported>)` is rejected after it had used the
    lookup tables, so the stream refuses the third statement, and what was written denotes exactly the one accepted
    statement. -/
theorem C20_regression_witness :
    c20Run = some ([true, false, false],
      [.stmt [.iri "http://x/a1", .iri "http://x/p1", .iri "http://x/o1"]], none) := by
  decide +kernel

/-- A rejected statement never reaches the flow — whatever was written or buffered before the failure is
    untouched (so the bytes flushed before it stay a valid prefix). -/
theorem C20_rejection_leaves_flow_untouched (exc : PyErr) (s s' : Stream) (terms : List Term) (e : PyErr) :
    (s.triple exc terms = (s', .error e) → s'.flow.rows = s.flow.rows ∧ s'.enrolled = s.enrolled) ∧
    (s.quad exc terms = (s', .error e) → s'.flow.rows = s.flow.rows ∧ s'.enrolled = s.enrolled) := by
  rw [Stream.triple_stepOf, Stream.quad_stepOf]
  constructor <;> intro h <;> obtain ⟨_, _, rfl⟩ := stepOf_err h <;> exact ⟨rfl, rfl⟩

/-- A stream whose encoder is as the next row would find it if nothing is wrong: no pins, no open row. -/
def Stream.idle (s : Stream) : Stream := { s with enc := s.enc.idle }

/-- A rejection that did not get to use the lookup tables leaves no trace at all: the repeated terms are put
    back, and up to the row-local bookkeeping (`idle`) the stream is what it was. -/
theorem C20_clean_rejection_leaves_no_trace (exc : PyErr) (s s' : Stream) (terms : List Term) (e : PyErr) :
    (s.triple exc terms = (s', .error e) → s'.enc.te.endRow = s.enc.te.endRow → s'.idle = s.idle) ∧
    (s.quad exc terms = (s', .error e) → s'.enc.te.endRow = s.enc.te.endRow → s'.idle = s.idle) := by
  have key : ∀ {body : EncState → Res EncState (List Row)} {enc' : EncState}, rowBracket body s.enc = (enc', .error e) →
      enc'.te.endRow = s.enc.te.endRow → ({ s with enc := enc' } : Stream).idle = s.idle := fun h he => by
    simp only [Stream.idle, EncState.idle] at he ⊢
    rw [he, rowBracket_err_rep h]
  rw [Stream.triple_stepOf, Stream.quad_stepOf]
  constructor <;> intro h <;> obtain ⟨enc', hop, rfl⟩ := stepOf_err h
  · exact key (body := (encodeTripleBody exc · terms)) hop
  · exact key (body := (encodeQuadBody exc · terms)) hop

/-- The row-local bookkeeping never matters to a stream that is not broken: on such a stream a statement
    call behaves as on the idle stream. -/
theorem idle_irrelevant (exc : PyErr) (s : Stream) (terms : List Term) (h : s.enc.te.broken = false) :
    s.idle.triple exc terms = s.triple exc terms ∧ s.idle.quad exc terms = s.quad exc terms := by
  have hrow : ∀ body, rowBracket body s.enc.idle = rowBracket body s.enc := fun body => by
    rw [rowBracket_eq (st := s.enc.idle) rfl, rowBracket_eq h]; rfl
  rw [Stream.triple_stepOf, Stream.quad_stepOf]
  exact ⟨stepOf_congr (hrow (encodeTripleBody exc · terms)), stepOf_congr (hrow (encodeQuadBody exc · terms))⟩

/-- A broken stream refuses every further statement and stays exactly as it is. -/
theorem broken_refuses (exc : PyErr) (s : Stream) (terms : List Term) (h : s.enc.te.broken = true) :
    s.triple exc terms = (s, .error .conformance) ∧ s.quad exc terms = (s, .error .conformance) := by
  rw [Stream.triple_stepOf, Stream.quad_stepOf]
  constructor <;> unfold stepOf
  · rw [show tripleOp exc terms s.enc = _ from rowBracket_broken (body := (encodeTripleBody exc · terms)) h]
  · rw [show quadOp exc terms s.enc = _ from rowBracket_broken (body := (encodeQuadBody exc · terms)) h]

end Jelly
