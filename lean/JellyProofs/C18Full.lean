import JellyProofs.C03
import JellyProofs.C18
/-!
# C18 — a statement too big for the lookup tables is refused, not corrupted

These are `C03_triples/_quads/_graphs` WITHOUT the sizing hypothesis `stmtFits`: for every sequence
of well-formed statements and every preset the stream accepted, the writer either ends with an
exception, or what it wrote is valid for the reference decoder and denotes exactly the input. The
silent third outcome (a well-formed file that decodes to other IRIs / datatypes) is impossible.
-/
namespace Jelly

theorem C18_triples (o : SerOptions) (s : Stream) (stmts : List (List Term))
    (hs : Stream.new .triple o = .ok s) (hl : validLogical s.logicalType = true)
    (hwf : ∀ t ∈ stmts, tripleWF t = true) :
    (streamFrames s (.gen stmts)).err ≠ none ∨
    ∃ st, Spec.runRows (streamFrames s (.gen stmts)).allRows'
            = (st, stmts.map (fun t => Event.stmt (t.map Term.norm)), none) :=
  stream_sim_or_err .triple o s stmts hs hl hwf

theorem C18_quads (o : SerOptions) (s : Stream) (stmts : List (List Term))
    (hs : Stream.new .quad o = .ok s) (hl : validLogical s.logicalType = true)
    (hwf : ∀ t ∈ stmts, quadWF t = true) :
    (streamFrames s (.gen stmts)).err ≠ none ∨
    ∃ st, Spec.runRows (streamFrames s (.gen stmts)).allRows'
            = (st, stmts.map (fun t => Event.stmt (t.map Term.norm)), none) :=
  stream_sim_or_err .quad o s stmts hs hl hwf

theorem C18_graphs (o : SerOptions) (s : Stream) (stmts : List (List Term))
    (hs : Stream.new .graph o = .ok s) (hl : validLogical s.logicalType = true)
    (hwf : ∀ t ∈ stmts, quadWF t = true) :
    (streamFrames s (.gen stmts)).err ≠ none ∨
    ∃ st, Spec.runRows (streamFrames s (.gen stmts)).allRows'
            = (st, stmts.map (fun t => Event.stmt (t.map Term.norm)), none) :=
  stream_sim_or_err .graph o s stmts hs hl hwf

/-- When the writer does end with an exception, everything it had handed out before is a valid
    prefix: the rows of the frames produced so far are accepted by the reference decoder and denote a
    prefix of the input. -/
theorem C18_prefix_on_error (o : SerOptions) (s : Stream) (stmts : List (List Term))
    (hs : Stream.new .triple o = .ok s) (hl : validLogical s.logicalType = true)
    (hwf : ∀ t ∈ stmts, tripleWF t = true) :
    ∃ st evs, Spec.runRows ((streamFrames s (.gen stmts)).frames.flatMap (·.rows)) = (st, evs, none) ∧
      evs <+: stmts.map (fun t => Event.stmt (t.map Term.norm)) := by
  obtain ⟨evs, st, hp, h, _⟩ :=
    stream_total False hs hl (.gen stmts) (fun _ h => nomatch h) (cls := .triple) hwf (fun h => h.elim)
  obtain ⟨st₁, evs₁, h1, hp1⟩ := Spec.runRows_prefix (r₂ := (streamFrames s (.gen stmts)).stream.flow.rows) h
  exact ⟨st₁, evs₁, h1, hp1.trans hp⟩

end Jelly
