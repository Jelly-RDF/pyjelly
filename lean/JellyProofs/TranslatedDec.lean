import JellyGenerated.DecGen
import JellyProofs.Translated
/-!
# The TRANSLATED term level of the decoder equals the model

`JellyGenerated/DecGen.lean` is produced from `Decoder.ingest_prefix_entry` / `ingest_name_entry` /
`ingest_datatype_entry`, `Decoder.decode_iri`, `Decoder.decode_literal` and `Decoder.validate_stream_options`
(`pyjelly/parse/decode.py`) by `harness/gen_translate_dec.py` on every run. They are the reader-side counterpart of
`encode_iri_indices` / `encode_literal`: which table an entry row goes to, how a (prefix id, name id) pair is resolved
(name first, then prefix, the zero forms of both), which member of the literal's oneof decides language and datatype,
and the check of a stream's options row against the options the decoder was opened with. Each is proved equal to the
function of the hand-written model that the property theorems (C01 round trip, C04 malformed input, C05 mirror of the
tables) are about.
-/
namespace Jelly.Translated
open Jelly Jelly.Py

/-- a method without a result: the attributes afterwards, or the exception -/
def okState (r : Except PyErr Unit × σ) : Except PyErr σ :=
  match r with
  | (.ok _, s) => .ok s
  | (.error e, _) => .error e

theorem okState_zoom_assign_entry (get : DecState → LookupDec) (set : DecState → LookupDec → DecState)
    (d : DecState) (id : Nat) (v : String) :
    okState ((zoom get set (Gen.LookupDecoder.assign_entry id v)).exec d) = ((get d).assignEntry id v).map (set d) := by
  rw [exec_zoom, ← assign_entry_eq]
  rcases (Gen.LookupDecoder.assign_entry id v).exec (get d) with ⟨_ | _, _⟩ <;> rfl

theorem ingest_prefix_entry_eq (d : DecState) (id : Nat) (v : String) :
    okState ((Gen.Decoder.ingest_prefix_entry id v).exec d)
      = (d.prefixes.assignEntry id v).map (fun t => { d with prefixes := t }) :=
  okState_zoom_assign_entry ..

theorem ingest_name_entry_eq (d : DecState) (id : Nat) (v : String) :
    okState ((Gen.Decoder.ingest_name_entry id v).exec d)
      = (d.names.assignEntry id v).map (fun t => { d with names := t }) :=
  okState_zoom_assign_entry ..

theorem ingest_datatype_entry_eq (d : DecState) (id : Nat) (v : String) :
    okState ((Gen.Decoder.ingest_datatype_entry id v).exec d)
      = (d.datatypes.assignEntry id v).map (fun t => { d with datatypes := t }) :=
  okState_zoom_assign_entry ..

/-- the three entry rows of `DecState.decodeRow` are the translated `ingest_*_entry` -/
theorem ingest_rows_eq (quoted : Bool) (d : DecState) (id : Nat) (v : String) :
    d.decodeRow quoted (.prefixEntry id v)
        = (okState ((Gen.Decoder.ingest_prefix_entry id v).exec d)).map (fun d' => (d', none))
    ∧ d.decodeRow quoted (.nameEntry id v)
        = (okState ((Gen.Decoder.ingest_name_entry id v).exec d)).map (fun d' => (d', none))
    ∧ d.decodeRow quoted (.dtEntry id v)
        = (okState ((Gen.Decoder.ingest_datatype_entry id v).exec d)).map (fun d' => (d', none)) := by
  rw [ingest_prefix_entry_eq, ingest_name_entry_eq, ingest_datatype_entry_eq]
  unfold DecState.decodeRow
  dsimp only
  refine ⟨?_, ?_, ?_⟩
  · cases d.prefixes.assignEntry id v <;> rfl
  · cases d.names.assignEntry id v <;> rfl
  · cases d.datatypes.assignEntry id v <;> rfl

/-- `decode_iri`: the name id is resolved first, then the prefix id; the IRI is their concatenation -/
theorem decode_iri_eq (d : DecState) (p n : Nat) :
    outcome ((Gen.Decoder.decode_iri p n).exec d) = d.decodeIri p n := by
  unfold Gen.Decoder.decode_iri DecState.decodeIri
  simp only [py_exec, swap_exec (decode_name_eq _ _)]
  rcases d.names.nameTerm n with ⟨names', _ | name⟩
  · rfl
  simp only [py_exec, swap_exec (decode_prefix_eq _ _)]
  rcases d.prefixes.prefixTerm p with ⟨prefixes', _ | pfx⟩ <;> rfl

/-- the two members of the oneof are never both set -/
def _root_.Jelly.Py.PLit.oneof (l : PLit) : Prop := l.langtag = none ∨ l.datatype = none

theorem _root_.Jelly.Py.PLit.oneof_empty : ({} : PLit).oneof := Or.inl rfl
theorem _root_.Jelly.Py.PLit.oneof_setLang (l : PLit) (v : String) : (l.setLang v).oneof := Or.inr rfl
theorem _root_.Jelly.Py.PLit.oneof_setDt (l : PLit) (v : Nat) : (l.setDt v).oneof := Or.inl rfl
theorem _root_.Jelly.Py.PLit.oneof_lex (l : PLit) (v : String) (h : l.oneof) : ({ l with lex := v } : PLit).oneof := h

/-- `decode_literal`: a non-empty language tag decides; otherwise a datatype reference, when present, is resolved (and
    a reference that cannot be resolved is an error); what the adapter is handed is the model's literal term. -/
theorem decode_literal_eq (d : DecState) (l : PLit) (h1 : l.oneof) :
    (outcome ((Gen.Decoder.decode_literal l).exec d)).map (fun r => (r.1, Term.lit r.2.1 r.2.2.1 r.2.2.2))
      = d.decodeLiteral l.lex l.kind := by
  unfold Gen.Decoder.decode_literal DecState.decodeLiteral PLit.kind
  obtain ⟨lex, lang, dt⟩ := l
  cases dt with
  | some id =>
    have hl : lang = none := by rcases h1 with h | h <;> simp_all
    subst hl
    simp only [py_exec, ↓reduceIte, optStrTruthy, Option.isSome, optGet, swap_exec (decode_datatype_eq _ _)]
    rcases d.datatypes.datatypeTerm id with ⟨dts', _ | _⟩ <;> rfl
  | none =>
    cases lang with
    | none => simp only [py_exec, ↓reduceIte, optStrTruthy, Option.isSome]; rfl
    | some t =>
      by_cases ht : (t != "") = true <;>
        simp only [py_exec, ↓reduceIte, optStrTruthy, Option.isSome, optGet, ht] <;> rfl

/-- the premise is met: a literal filled in by the translated `encode_literal` satisfies `oneof` -/
example : (PLit.setDt {} 3).oneof ∧ (PLit.setLang { lex := "a" } "en").oneof := ⟨Or.inl rfl, Or.inr rfl⟩

/-- two `assert`s in a row are one `assert` of the conjunction -/
theorem ite_ite_and {α : Type} (a b : Bool) (x y : α) :
    (if a = true then (if b = true then x else y) else y) = if (a && b) = true then x else y := by
  cases a <;> cases b <;> rfl

/-- `validate_stream_options`: the seven `assert`s against the options the stream was opened with. All raise the same
    `AssertionError` and none changes anything, so their order in the source does not matter. -/
theorem validate_stream_options_eq (d : DecState) (o : Options) :
    (Gen.Decoder.validate_stream_options o).exec d = (d.validateOptions o, d) := by
  unfold Gen.Decoder.validate_stream_options DecState.validateOptions
  -- each `assert c` is `if c then <the rest> else raise`; simp works from the inside out, so the last two merge first
  simp only [py_exec, ite_ite_and]
  rw [apply_ite (fun r : Except PyErr Unit => (r, d))]
  congr 2
  ac_rfl

end Jelly.Translated
