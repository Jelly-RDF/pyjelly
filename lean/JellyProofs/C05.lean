import JellyModel.Joint
import JellyProofs.Lemmas.LookupMirror
/-!
# C05 — writer and reader lookup tables stay mirrored for all histories

The joint run of `JellyModel/Joint.lean` feeds one writer table and pyjelly's reader table the same history of keys;
`jointRun_spec` (LookupMirror) keeps them mirrored step by step, for every size, rule and history.
-/
namespace Jelly

/-- For every table size 1..4096, each of the three index rules and every finite key history
    (no bound on its length, no restriction on the key alphabet): the joint run never fails, every
    index the writer puts on the wire resolves on the reader to exactly the key the writer meant,
    the number of live writer entries never exceeds the declared size, and every id emitted (entry
    ids and term indices, including the zero forms) lies in `[0, size]`. Since `ks` is arbitrary,
    the statement holds after every prefix of a history as well. -/
theorem C05_mirror_history (rule : Rule) (size : Nat) (hs : 1 ≤ size) (hle : size ≤ MAX_LOOKUP_SIZE)
    (ks : List String) :
    ∃ st0, jointInit size = .ok st0 ∧
      (jointRun rule st0 ks []).2.2 = none ∧
      (jointRun rule st0 ks []).2.1.map (·.resolved) = ks ∧
      (jointRun rule st0 ks []).1.1.lookup.data.length ≤ size ∧
      (∀ o ∈ (jointRun rule st0 ks []).2.1, o.idx ≤ size ∧ ∀ id, o.entry = some id → id ≤ size) := by
  have hnot : ¬ size > MAX_LOOKUP_SIZE := by omega
  refine ⟨(LookupEnc.new size, { size := size, data := List.replicate size none }), ?_, ?_⟩
  · simp only [jointInit, LookupDec.new, hnot, if_false]
  · obtain ⟨outs, h1, h2, h3, h4, h5, h6⟩ :=
      jointRun_spec rule ks (LookupEnc.new size, { size := size, data := List.replicate size none }) []
        (JointInv.init hs)
    have hmax : (LookupEnc.new size).lookup.maxSize = size := rfl
    simp only [hmax] at h4 h6
    rw [List.nil_append] at h1
    refine ⟨h2, by rw [h1]; exact h3, ?_, by rw [h1]; exact h4⟩
    have := h5.mirror.wf.lenLe
    rw [h6] at this
    exact this

/-- Disabled prefix table (size 0): no entry is ever sent and every prefix id is 0, which the
    reader resolves to the empty prefix (the whole IRI then travels in the name table). -/
theorem C05_prefix_disabled (ks : List String) :
    ∃ st0, jointInit 0 = .ok st0 ∧
      (jointRun .prefix st0 ks []).2.2 = none ∧
      (∀ o ∈ (jointRun .prefix st0 ks []).2.1, o.idx = 0 ∧ o.entry = none ∧ o.resolved = "") ∧
      (jointRun .prefix st0 ks []).2.1.length = ks.length := by
  refine ⟨(LookupEnc.new 0, { size := 0, data := [] }), ?_, ?_⟩
  · simp [jointInit, LookupDec.new, MAX_LOOKUP_SIZE]
  · rw [jointRun_prefix_disabled ks _ [] rfl rfl]
    refine ⟨rfl, ?_, by simp⟩
    intro o ho
    simp only [List.nil_append] at ho
    rw [List.eq_of_mem_replicate ho]
    exact ⟨rfl, rfl, rfl⟩

/-- Non-vacuity / sanity: a concrete history with hits, misses and evictions on a table of size 2. -/
example :
    ∃ st0, jointInit 2 = .ok st0 ∧
      (jointRun .name st0 ["a", "b", "c", "a", "a", "b"] []).2.1.map (·.resolved) = ["a", "b", "c", "a", "a", "b"] := by
  -- checked by kernel evaluation of the model, independently of `C05_mirror_history`
  refine ⟨(LookupEnc.new 2, { size := 2, data := [none, none] }), rfl, ?_⟩
  decide

/-- The same history, with everything that goes on the wire: two sequential entries (id 0 = "previous
    + 1"), an eviction reusing id 1, zero forms of the name rule, and a hit (`entry = none`). -/
example :
    (jointRun .name (LookupEnc.new 2, { size := 2, data := [none, none] })
        ["a", "b", "c", "a", "a", "b"] []).2.1 =
      [⟨some 0, 0, "a"⟩, ⟨some 0, 0, "b"⟩, ⟨some 1, 1, "c"⟩, ⟨some 0, 0, "a"⟩, ⟨none, 2, "a"⟩,
       ⟨some 1, 1, "b"⟩] := by
  decide

end Jelly
