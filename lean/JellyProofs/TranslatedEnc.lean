import JellyGenerated.EncGen
import JellyProofs.Translated
import JellyProofs.TranslatedFuncs
/-!
# The TRANSLATED term level of the writer equals the model

`JellyGenerated/EncGen.lean` is produced from `TermEncoder.start_row` / `end_row` / `encode_iri_indices` /
`encode_literal` (`pyjelly/serialize/encode.py`) by `harness/gen_translate_enc.py` on every run. `start_row` /
`end_row` are the protocol behind C18 (the entries a row uses are pinned from `start_row` on) and C20 (a row abandoned
after it had used the tables makes the next `start_row` refuse); `encode_iri_indices` / `encode_literal` are where a
term reaches the three lookup tables (C03, C19), and their equations keep the encoder as the method leaves it also
when a table refuses.
-/
namespace Jelly.Translated
open Jelly Jelly.Py

theorem setTruthy_hasPins (e : LookupEnc) : setTruthy e.lookup.pinned = e.hasPins := by
  unfold setTruthy LookupEnc.hasPins
  rcases e.lookup.pinned with _ | ⟨_ | _⟩ <;> rfl

/-- `start_row`: refuses with JellyConformanceError exactly on a broken encoder (leaving it as it was), otherwise
    opens the row and starts pinning in all three tables. -/
theorem start_row_eq (te : TermEnc) :
    Gen.TermEncoder.start_row.exec te
      = match te.beginRow with
        | .ok te' => (.ok (), te')
        | .error e => (.error e, te) := by
  unfold Gen.TermEncoder.start_row TermEnc.beginRow TermEnc.broken
  simp only [py_exec, setTruthy_hasPins]
  split <;> simp only [py_exec] <;> rfl

/-- `end_row`: closes the row and stops tracking in all three tables; never raises. -/
theorem end_row_eq (te : TermEnc) : Gen.TermEncoder.end_row.exec te = (.ok (), te.endRow) := rfl

/-! ## `if c: v = f(o)` — the two branches join

Where a method tests `o is not None` (or the truthiness of `o`, which `None` fails) and uses the value of `o` in the
branch, the `do` block has a join point after the `if`, and stepping through it would run the rest of the method once
per branch. `whenSet` is that statement with the rest of the method as `k`; the generated methods are, by unfolding,
written with it, and `whenSet_eq` joins the branches before anything is run. -/

/-- `if c: v = f(o)`, then `k v`; `c` is a test that `o` passes only when it is not `None` -/
def whenSet {σ α β γ : Type} (c : Bool) (o : Option α) (f : α → β) (z : β) (k : β → M σ γ) : M σ γ := do
  if c then k (f (← liftE (optGet o))) else k z

theorem whenSet_eq {σ α β γ : Type} {c : Bool} {o : Option α} (h : c = true → o.isSome = true) (f : α → β) (z : β)
    (k : β → M σ γ) : whenSet c o f z k = k (if c then o.elim z f else z) := by
  cases c
  · rfl
  · cases o with
    | none => simp at h
    | some a => rfl

theorem whenSet_isSome {σ α β γ : Type} (o : Option α) (f : α → β) (z : β) (k : β → M σ γ) :
    whenSet o.isSome o f z k = k (o.elim z f) := by
  rw [whenSet_eq (fun h => h)]; cases o <;> rfl

theorem optStrTruthy_isSome {o : Option String} (h : optStrTruthy o = true) : o.isSome = true := by
  cases o <;> simp_all [optStrTruthy]

theorem optNatTruthy_isSome {o : Option Nat} (h : optNatTruthy o = true) : o.isSome = true := by
  cases o <;> simp_all [optNatTruthy]

theorem encode_iri_indices_blocks (iri_string : String) :
    Gen.TermEncoder.encode_iri_indices iri_string = (do
      let t1__ ← liftE (Gen.split_iri iri_string)
      let mut name : String := t1__.2
      let mut prefix_entry_index : Option Nat := default
      if truthy ((← get).prefixes.lookup.maxSize) then
        prefix_entry_index := (← zoom (·.prefixes) (fun s v => { s with prefixes := v })
          (Gen.LookupEncoder.encode_entry_index t1__.1))
      else
        name := iri_string
        prefix_entry_index := none
      let name_entry_index ← zoom (·.names) (fun s v => { s with names := v })
        (Gen.LookupEncoder.encode_entry_index name)
      whenSet prefix_entry_index.isSome prefix_entry_index (fun i => ([] : List Row) ++ [Row.prefixEntry i t1__.1]) []
          (fun term_rows =>
        whenSet name_entry_index.isSome name_entry_index (fun i => term_rows ++ [Row.nameEntry i name]) term_rows
            (fun term_rows => do
          let prefix_index ← zoom (·.prefixes) (fun s v => { s with prefixes := v })
            (Gen.LookupEncoder.encode_prefix_term_index t1__.1)
          let name_index ← zoom (·.names) (fun s v => { s with names := v })
            (Gen.LookupEncoder.encode_name_term_index name)
          return (term_rows, prefix_index, name_index)))) := rfl

attribute [py_exec] prefix_term_index_exec name_term_index_exec datatype_term_index_exec whenSet_isSome

/-- `encode_iri_indices`: the entry rows an IRI needs and its (prefix id, name id) pair, with the encoder left — also
    when a table refuses — exactly as the model leaves it. Side condition as for `insert`: a full table is not empty.
    -/
theorem encode_iri_indices_eq (te : TermEnc) (iri : String)
    (hp : te.prefixes.lookup.evicting = true → te.prefixes.lookup.data ≠ [])
    (hn : te.names.lookup.evicting = true → te.names.lookup.data ≠ []) :
    swap ((Gen.TermEncoder.encode_iri_indices iri).exec te) = te.iriIndices iri := by
  rw [encode_iri_indices_blocks]
  unfold TermEnc.iriIndices
  by_cases hu : (te.prefixes.lookup.maxSize == 0) = true
  · simp only [py_exec, ↓reduceIte, split_iri_eq, truthy_nat, bne, hu, entry_index_exec _ _ hn]
    rcases te.names.entryIndex iri with _ | ⟨ne, nEntry⟩
    · rfl
    simp only [py_exec]
    rcases te.prefixes.prefixTermIndex (splitIri iri).1 with _ | ⟨pe', pIdx⟩
    · rfl
    simp only [py_exec]
    rcases ne.nameTermIndex iri with _ | ⟨ne', nIdx⟩
    · rfl
    · cases nEntry <;> rfl
  · simp only [py_exec, ↓reduceIte, split_iri_eq, truthy_nat, bne, hu, entry_index_exec _ _ hp]
    rcases te.prefixes.entryIndex (splitIri iri).1 with _ | ⟨pe, pEntry⟩
    · rfl
    simp only [py_exec, entry_index_exec _ _ hn]
    rcases te.names.entryIndex (splitIri iri).2 with _ | ⟨ne, nEntry⟩
    · rfl
    simp only [py_exec]
    rcases pe.prefixTermIndex (splitIri iri).1 with _ | ⟨pe', pIdx⟩
    · rfl
    simp only [py_exec]
    rcases ne.nameTermIndex (splitIri iri).2 with _ | ⟨ne', nIdx⟩
    · rfl
    · cases pEntry <;> cases nEntry <;> rfl

/-- the literal message `encode_literal` fills in, read the way the model reads it: the rows and which member of the
    `langtag`/`datatype` oneof ends up set -/
def litView (r : Except PyErr (List Row × PLit) × TermEnc) : TermEnc × Except PyErr (List Row × WLitKind) :=
  (r.2, r.1.map (fun p => (p.1, p.2.kind)))

/-- the `RdfLiteral` that `encode_literal` leaves: `lex` as given and one member of the oneof, the one assigned last
    -/
def litOf (lex : String) : WLitKind → PLit
  | .plain => { lex }
  | .lang t => { lex, langtag := some t }
  | .dt d => { lex, datatype := some d }

theorem litOf_kind (lex : String) (k : WLitKind) : (litOf lex k).kind = k := by cases k <;> rfl
theorem litOf_lex (lex : String) (k : WLitKind) : (litOf lex k).lex = lex := by cases k <;> rfl

theorem encode_literal_blocks (lex : String) (language datatype : Option String) :
    Gen.TermEncoder.encode_literal lex language datatype = (do
      let mut datatype_entry_id : Option Nat := default
      let mut term_rows : List Row := []
      let mut datatype_id : Option Nat := none
      if ((optStrTruthy datatype) && (datatype != some ("http://www.w3.org/2001/XMLSchema#string"))) then
        if ((← get).datatypes.lookup.maxSize == 0) then
          throw PyErr.conformance
        datatype_entry_id := (← zoom (·.datatypes) (fun s v => { s with datatypes := v })
          (Gen.LookupEncoder.encode_entry_index (← liftE (optGet datatype))))
        if (datatype_entry_id).isSome then
          term_rows := [Row.dtEntry (← liftE (optGet datatype_entry_id)) (← liftE (optGet datatype))]
        datatype_id := (some (← zoom (·.datatypes) (fun s v => { s with datatypes := v })
          (Gen.LookupEncoder.encode_datatype_term_index (← liftE (optGet datatype)))))
      whenSet (optStrTruthy language) language (PLit.setLang { lex }) { lex } (fun literal__ =>
        whenSet (optNatTruthy datatype_id) datatype_id (PLit.setDt literal__) literal__ (fun literal__ =>
          return (term_rows, literal__)))) := rfl

/-- the assignments at the end of `encode_literal`: `lex`, then `langtag` for a non-empty language, then `datatype`
    for a non-zero id, which clears `langtag` -/
theorem litOf_assignments (lex : String) (lang : Option String) (id : Option Nat) :
    (if optNatTruthy id = true then
        id.elim (if optStrTruthy lang = true then lang.elim { lex } (PLit.setLang { lex }) else { lex })
          (PLit.setDt (if optStrTruthy lang = true then lang.elim { lex } (PLit.setLang { lex }) else { lex }))
      else if optStrTruthy lang = true then lang.elim { lex } (PLit.setLang { lex }) else { lex })
      = litOf lex (if id.getD 0 != 0 then .dt (id.getD 0) else
          match lang with
          | some l => if l != "" then .lang l else .plain
          | none => .plain) := by
  -- the id: none, 0, or not 0; the language: none, empty, or not empty
  rcases id with _ | _ | n <;> rcases lang with _ | l <;> (try by_cases hl : l = "") <;>
    simp_all [optNatTruthy, optStrTruthy, litOf, PLit.setDt, PLit.setLang]

/-- the test `if datatype and datatype != STRING_DATATYPE_IRI` on a datatype that is given -/
theorem dt_test (d : String) :
    (optStrTruthy (some d) && (some d != some "http://www.w3.org/2001/XMLSchema#string"))
      = (d != "" && d != XSD_STRING) := by
  simp [optStrTruthy, XSD_STRING, bne]

/-- `encode_literal` as one equation: rows, encoder and the whole message, which `litOf` determines from the model's
    kind -/
theorem encode_literal_exec (te : TermEnc) (lex : String) (lang dt : Option String)
    (hd : te.datatypes.lookup.evicting = true → te.datatypes.lookup.data ≠ []) :
    (Gen.TermEncoder.encode_literal lex lang dt).exec te
      = ((te.literal lang dt).2.map fun p => (p.1, litOf lex p.2), (te.literal lang dt).1) := by
  rw [encode_literal_blocks]
  unfold TermEnc.literal
  simp only [whenSet_eq optStrTruthy_isSome, whenSet_eq optNatTruthy_isSome, litOf_assignments]
  rcases dt with _ | d
  · simp only [py_exec, ↓reduceIte, optStrTruthy, Bool.false_and]; rfl
  simp only [dt_test]
  by_cases hg : (d != "" && d != XSD_STRING) = true
  · by_cases hz : (te.datatypes.lookup.maxSize == 0) = true
    · simp only [py_exec, ↓reduceIte, hg, hz]; rfl
    simp only [py_exec, ↓reduceIte, hg, hz, optGet, entry_index_exec _ _ hd]
    rcases te.datatypes.entryIndex d with _ | ⟨de, dEntry⟩
    · rfl
    cases dEntry <;> simp only [py_exec, ↓reduceIte, Option.isSome] <;>
      rcases de.datatypeTermIndex d with _ | ⟨de', id⟩ <;> simp only [py_exec] <;> rfl
  · simp only [py_exec, ↓reduceIte, hg]; rfl

/-- `encode_literal`: the datatype entry row, the member of the oneof that is set last, and the encoder afterwards
    (also on the conformance refusal of a disabled datatype table) are the model's `TermEnc.literal`; the lexical
    form is stored as given. -/
theorem encode_literal_eq (te : TermEnc) (lex : String) (lang dt : Option String)
    (hd : te.datatypes.lookup.evicting = true → te.datatypes.lookup.data ≠ []) :
    litView ((Gen.TermEncoder.encode_literal lex lang dt).exec te) = te.literal lang dt
    ∧ ∀ p, ((Gen.TermEncoder.encode_literal lex lang dt).exec te).1 = .ok p → p.2.lex = lex := by
  rw [encode_literal_exec te lex lang dt hd]
  rcases te.literal lang dt with ⟨te', _ | ⟨rows, k⟩⟩
  · exact ⟨rfl, fun p h => nomatch h⟩
  · refine ⟨?_, ?_⟩
    · simp [litView, Except.map, litOf_kind]
    · intro p h; cases h; exact litOf_lex lex k

end Jelly.Translated
