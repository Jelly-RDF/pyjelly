import JellyModel.Parse
import JellyProofs.Lemmas.DecodeEqs
/-!
# Frames on the reader side: `decodeFrames`, `parseCore`, `sinkOfEvents`

* `decodeFrames` : frame-by-frame decoding is decoding of the concatenated rows (`decodeFrames_eq_rows`).
* `parseCore` : open the stream, set up the decoder, decode the frames (`parseCore_eq`); hence the flat parser as a
  function of the options and the row sequence (`decodeAll`, `parseFlat_eq`).
* `sinkOfEvents` : the store of the sink is the statement events, in order.
-/
namespace Jelly

/-- Decoding frame by frame delivers the events, and the error, of decoding all rows in one list. -/
theorem decodeFrames_eq_rows (q : Bool) (d : DecState) (frames : List Frame) (acc : List (List Event)) :
    (decodeFrames q d frames acc).1.flatten ++ (decodeFrames q d frames acc).2.1
        = acc.flatten ++ (d.decodeRows q (frames.flatMap (·.rows)) []).2.1 ∧
    (decodeFrames q d frames acc).2.2 = (d.decodeRows q (frames.flatMap (·.rows)) []).2.2 := by
  fun_induction decodeFrames q d frames acc with
  | case1 d acc => exact ⟨rfl, rfl⟩  -- no frame left
  | case2 d f fs acc d' evs e h =>  -- a row of the frame raised
    rw [List.flatMap_cons, decodeRows_append, h]
    exact ⟨rfl, rfl⟩
  | case3 d f fs acc d' evs h ih =>  -- the frame decoded
    rw [List.flatMap_cons, decodeRows_append, h]
    simp only
    rw [decodeRows_acc_events, decodeRows_acc_err, ih.1, ih.2, List.flatten_append, List.append_assoc]
    exact ⟨congrArg (acc.flatten ++ ·) (by rw [List.flatten_singleton]), rfl⟩

theorem decodeFrames_ok_length (q : Bool) (d : DecState) (frames : List Frame) (acc : List (List Event))
    (h : (decodeFrames q d frames acc).2.2 = none) :
    (decodeFrames q d frames acc).1.length = acc.length + frames.length ∧
    (decodeFrames q d frames acc).2.1 = [] := by
  revert h
  fun_induction decodeFrames q d frames acc with
  | case1 d acc => exact fun _ => ⟨rfl, rfl⟩  -- no frame left
  | case2 d f fs acc d' evs e h => intro h; cases h  -- a row of the frame raised
  | case3 d f fs acc d' evs h ih =>  -- the frame decoded
    intro hn
    obtain ⟨ih1, ih2⟩ := ih hn
    refine ⟨?_, ih2⟩
    rw [ih1, List.length_append, List.length_cons, List.length_cons, List.length_nil]
    omega

theorem decodeRows_events_prefix (q : Bool) (d : DecState) (r₁ r₂ : List Row) :
    (d.decodeRows q r₁ []).2.1 <+: (d.decodeRows q (r₁ ++ r₂) []).2.1 := by
  rw [decodeRows_append]
  rcases d.decodeRows q r₁ [] with ⟨d', evs, _ | e⟩
  · dsimp only
    rw [decodeRows_acc_events]
    exact List.prefix_append _ _
  · exact List.prefix_refl _

/-- The decoder `parseCore` sets up for an opened stream: the logical-type gate, the adapter, the tables. -/
def decoderOf (gate : Nat → Bool) (opts : ParserOptions) : Except PyErr DecState :=
  if !gate opts.logical then .error .conformance
  else
    match adapterFor opts.physical with
    | .error e => .error e
    | .ok adapter => DecState.new opts adapter

/-- `parseCore` in three stages: open the stream, set up the decoder, decode the frames. -/
theorem parseCore_eq (q : Bool) (kind : SourceKind) (b : Bytes) (gate : Nat → Bool) :
    parseCore q kind b gate =
      match getOptionsAndFrames kind b with
      | .error e => ([], [], some e)
      | .ok o =>
        match decoderOf gate o.opts with
        | .error e => ([], [], some e)
        | .ok d =>
          match decodeFrames q d o.frames.1 [] with
          | (done, part, some e) => (done, part, some e)
          | (done, _, none) => (done, [], o.frames.2) := by
  unfold parseCore decoderOf
  cases getOptionsAndFrames kind b with
  | error e => rfl
  | ok o =>
    dsimp only
    split
    · rfl
    · cases adapterFor o.opts.physical with
      | error e => rfl
      | ok a => cases DecState.new o.opts a <;> rfl

theorem parseCore_ok_partial (q : Bool) (kind : SourceKind) (b : Bytes) (gate : Nat → Bool) :
    (parseCore q kind b gate).2.2 = none → (parseCore q kind b gate).2.1 = [] := by
  rw [parseCore_eq]
  split
  · exact fun _ => rfl
  split
  · exact fun _ => rfl
  split
  · intro h; cases h
  · exact fun _ => rfl

/-- What a flat parse delivers once the options are read, as a function of the options and the ROW sequence: the
    events, and the exception that ended the decoding, if any. -/
def decodeAll (quoted : Bool) (gate : Nat → Bool) (opts : ParserOptions) (rows : List Row) :
    List Event × Option PyErr :=
  match decoderOf gate opts with
  | .error e => ([], some e)
  | .ok d => (d.decodeRows quoted rows []).2

/-- The flat parser is `decodeAll` over the rows of all frames read, followed by the error of the frame iterator:
    frame boundaries play no role (`decodeFrames_eq_rows`). Truncation (C10), short inputs and the round trip through
    bytes (C01, C04) are read off this form. -/
theorem parseFlat_eq (kind : SourceKind) (b : Bytes) (strict quoted : Bool) :
    parseFlat kind b strict quoted =
      match getOptionsAndFrames kind b with
      | .error e => { events := [], err := some e }
      | .ok o =>
        { events := (decodeAll quoted (fun l => !strict || strictFlatOk l) o.opts (o.frames.1.flatMap (·.rows))).1
          err := (decodeAll quoted (fun l => !strict || strictFlatOk l) o.opts (o.frames.1.flatMap (·.rows))).2.or
            o.frames.2 } := by
  unfold parseFlat
  rw [parseCore_eq]
  cases getOptionsAndFrames kind b with
  | error e => rfl
  | ok o =>
    unfold decodeAll
    dsimp only
    cases decoderOf _ o.opts with
    | error e => rfl
    | ok d =>
      dsimp only
      obtain ⟨h1, h2⟩ := decodeFrames_eq_rows quoted d o.frames.1 []
      have hp := fun h => (decodeFrames_ok_length quoted d o.frames.1 [] h).2
      rw [← h2, ← (List.nil_append _ ▸ h1 : _ = (d.decodeRows quoted (o.frames.1.flatMap (·.rows)) []).2.1)]
      generalize decodeFrames quoted d o.frames.1 [] = r at hp
      obtain ⟨done, part, _ | e⟩ := r
      · rw [hp rfl]; rfl
      · rfl

theorem decodeAll_events_prefix (quoted : Bool) (gate : Nat → Bool) (opts : ParserOptions) (r₁ r₂ : List Row) :
    (decodeAll quoted gate opts r₁).1 <+: (decodeAll quoted gate opts (r₁ ++ r₂)).1 := by
  unfold decodeAll
  cases decoderOf gate opts with
  | error e => exact List.prefix_refl _
  | ok d => exact decodeRows_events_prefix quoted d r₁ r₂

def Event.stmt? (ev : Event) : Option (List Term) :=
  match ev with
  | .stmt ts => some ts
  | .ns _ _ => none

@[simp] theorem Event.stmt?_stmt (ts : List Term) : Event.stmt? (.stmt ts) = some ts := rfl
@[simp] theorem Event.stmt?_ns (n : String) (i : Term) : Event.stmt? (.ns n i) = none := rfl

theorem sinkOfEvents_store (evs : List Event) :
    (sinkOfEvents evs).store = evs.filterMap Event.stmt? := by
  unfold sinkOfEvents
  -- from an arbitrary sink `s` the store is `s.store ++ _`
  show _ = ({} : Sink).store ++ _
  generalize ({} : Sink) = s
  induction evs generalizing s with
  | nil => exact (List.append_nil _).symm
  | cons ev evs ih =>
    rw [List.foldl_cons, ih]
    cases ev with
    | stmt ts => exact List.append_assoc _ _ _
    | ns n i => rfl

theorem sinks_store_flatten (done : List (List Event)) :
    (done.map sinkOfEvents).flatMap (·.store) = done.flatten.filterMap Event.stmt? := by
  induction done with
  | nil => rfl
  | cons evs rest ih =>
    simp only [List.map_cons, List.flatMap_cons, List.flatten_cons, List.filterMap_append, ih,
      sinkOfEvents_store]

/-- What a parser hands its caller: the events, unless an exception was raised. -/
def okEvents (evs : List Event) (err : Option PyErr) : Except PyErr (List Event) :=
  match err with
  | none => .ok evs
  | some e => .error e

theorem okEvents_eq_ok {evs evs' : List Event} {err : Option PyErr} (h : okEvents evs err = .ok evs') :
    evs = evs' ∧ err = none := by
  cases err with
  | none => cases h; exact ⟨rfl, rfl⟩
  | some e => cases h

theorem okEvents_decodeFrames (q : Bool) (d : DecState) (fs : List Frame) :
    okEvents (decodeFrames q d fs []).1.flatten (decodeFrames q d fs []).2.2
      = okEvents (d.decodeRows q (fs.flatMap (·.rows)) []).2.1 (d.decodeRows q (fs.flatMap (·.rows)) []).2.2 := by
  obtain ⟨a1, a2⟩ := decodeFrames_eq_rows q d fs []
  rw [← a2]
  cases h : (decodeFrames q d fs []).2.2 with
  | some e => rfl
  | none =>
    rw [(decodeFrames_ok_length q d fs [] h).2] at a1
    simp only [List.append_nil, List.flatten_nil, List.nil_append] at a1
    rw [a1]

/-- The first non-empty frame starts with the first row of the stream. -/
theorem first_nonempty {fs : List Frame} {r : Row} {rest : List Row} (hrows : fs.flatMap (·.rows) = r :: rest) :
    ∃ f rs, fs.find? (fun f => !f.rows.isEmpty) = some f ∧ f.rows = r :: rs := by
  cases hfind : fs.find? (fun f => !f.rows.isEmpty) with
  | none =>
    rw [List.flatMap_eq_nil_iff.2 fun g hg => by simpa using List.find?_eq_none.1 hfind g hg] at hrows
    cases hrows
  | some f =>
    obtain ⟨hne, sk, tail, rfl, hsk⟩ := List.find?_eq_some_iff_append.1 hfind
    rw [List.flatMap_append, List.flatMap_eq_nil_iff.2 fun g hg => by simpa using hsk g hg, List.nil_append,
      List.flatMap_cons] at hrows
    cases hf : f.rows with
    | nil => simp [hf] at hne
    | cons a as =>
      rw [hf] at hrows
      cases hrows
      exact ⟨f, as, rfl, hf⟩

end Jelly
