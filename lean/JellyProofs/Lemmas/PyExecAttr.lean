import Lean.Meta.Tactic.Simp.RegisterCommand
/-- what one statement form of the Python fragment does to `M.exec` (`JellyProofs/Lemmas/PyExec.lean`) -/
register_simp_attr py_exec
