import JellyProofs.Lemmas.SerFlow
/-!
# Serializer loops as command lists

Every loop of the serializer does two things only: it runs an encoder operation and appends its rows to
the flow (an exception ends the run), or it offers the flow a flush. `Run.exec` executes a list of such
commands; `flatRun` is the same fold without stream and flow. `Run.exec_flat` says, once, what a loop can
change and what it cannot; the loops of the model are shown equal to `Run.exec` of a command list in
`SerRows.lean`, and inherit it.
-/
namespace Jelly

/-- Which of the flow's four frame functions is called. -/
inductive CutKind
  | bounds | graph | dataset | all

def CutKind.apply : CutKind → Flow → Flow × Option Frame
  | .bounds, f => f.frameFromBounds
  | .graph, f => f.frameFromGraph
  | .dataset, f => f.frameFromDataset
  | .all, f => f.toStreamFrame

theorem CutKind.apply_isCut (k : CutKind) (f : Flow) : f.IsCut (k.apply f) := by
  cases k
  · exact f.frameFromBounds_isCut
  · show f.IsCut f.frameFromGraph
    unfold Flow.frameFromGraph
    split
    · exact f.toStreamFrame_isCut
    · exact .none f
  · show f.IsCut f.frameFromDataset
    unfold Flow.frameFromDataset
    split
    · exact f.toStreamFrame_isCut
    · exact .none f
  · exact f.toStreamFrame_isCut

/-- An encoder operation: the new encoder state, and the rows to append to the flow or the exception raised. -/
abbrev EncOp := EncState → EncState × Except PyErr (List Row)

/-- What a serializer loop does at one point: run an encoder operation and push its rows, or offer the flow a flush. -/
inductive Cmd
  | emit (op : EncOp)
  | cut (k : CutKind)

/-- Stops at the first failing `emit`; never looks at the frames handed out or at the error flag. -/
def Run.exec : Run → List Cmd → Run
  | r, [] => r
  | r, .cut k :: cs => Run.exec (r.pushCut (k.apply r.stream.flow)) cs
  | r, .emit op :: cs =>
    match op r.stream.enc with
    | (enc', .error e) => { r with stream := { r.stream with enc := enc' }, err := some e }
    | (enc', .ok rows) => Run.exec { r with stream := ({ r.stream with enc := enc' } : Stream).pushRows rows } cs

def flatRun : EncState → List Cmd → EncState × List Row × Option PyErr
  | enc, [] => (enc, [], none)
  | enc, .cut _ :: cs => flatRun enc cs
  | enc, .emit op :: cs =>
    match op enc with
    | (enc', .error e) => (enc', [], some e)
    | (enc', .ok rows) => ((flatRun enc' cs).1, rows ++ (flatRun enc' cs).2.1, (flatRun enc' cs).2.2)

@[simp] theorem Run.exec_nil (r : Run) : r.exec [] = r := rfl

@[simp] theorem Run.exec_cut (r : Run) (k : CutKind) (cs : List Cmd) :
    r.exec (.cut k :: cs) = Run.exec (r.pushCut (k.apply r.stream.flow)) cs := rfl

theorem Run.exec_emit (r : Run) (op : EncOp) (cs : List Cmd) :
    r.exec (.emit op :: cs) =
      match (op r.stream.enc).2 with
      | .error e => { r with stream := { r.stream with enc := (op r.stream.enc).1 }, err := some e }
      | .ok rows => Run.exec { r with stream :=
          ({ r.stream with enc := (op r.stream.enc).1 } : Stream).pushRows rows } cs := by
  rw [Run.exec]
  rcases op r.stream.enc with ⟨enc', e | rows⟩ <;> rfl

@[simp] theorem flatRun_nil (enc : EncState) : flatRun enc [] = (enc, [], none) := rfl

@[simp] theorem flatRun_cut (enc : EncState) (k : CutKind) (cs : List Cmd) :
    flatRun enc (.cut k :: cs) = flatRun enc cs := rfl

theorem flatRun_emit (enc : EncState) (op : EncOp) (cs : List Cmd) :
    flatRun enc (.emit op :: cs) =
      match (op enc).2 with
      | .error e => ((op enc).1, [], some e)
      | .ok rows => ((flatRun (op enc).1 cs).1, rows ++ (flatRun (op enc).1 cs).2.1, (flatRun (op enc).1 cs).2.2) := by
  rw [flatRun]
  rcases op enc with ⟨enc', e | rows⟩ <;> rfl

/-- `r'` is `r` after commands whose flow-free outcome (`flatRun`) is `x` = (encoder state, rows appended, first
    exception): what the commands determine, and what no command changes. -/
structure Run.Flat (r r' : Run) (x : EncState × List Row × Option PyErr) : Prop where
  enc : r'.stream.enc = x.1
  rows : Run.allRows' r' = Run.allRows' r ++ x.2.1
  err : r'.err = x.2.2.or r.err
  keeps : r.stream.Keeps r'.stream
  enrolled : r'.stream.enrolled = r.stream.enrolled
  noEmpty : r.NoEmpty → r'.NoEmpty
  noMeta : (∀ f ∈ r.frames, f.metadata = []) → ∀ f ∈ r'.frames, f.metadata = []

theorem Run.allRows'_pushCut (r : Run) {x : Flow × Option Frame} (hx : r.stream.flow.IsCut x) :
    Run.allRows' (r.pushCut x) = Run.allRows' r := by
  simp only [Run.allRows', Run.pushCut, Run.push_frames, Run.push_stream, List.flatMap_append,
    List.append_assoc, hx.rows]

theorem Run.exec_flat (cs : List Cmd) (r : Run) : Run.Flat r (r.exec cs) (flatRun r.stream.enc cs) := by
  induction cs generalizing r with
  | nil => exact ⟨rfl, by simp, by simp, .refl _, rfl, id, id⟩
  | cons c cs ih =>
    cases c with
    | cut k =>
      have hx := k.apply_isCut r.stream.flow
      have h := ih (r.pushCut (k.apply r.stream.flow))
      refine ⟨h.enc, h.rows.trans (by rw [Run.allRows'_pushCut r hx]; rfl), h.err,
        (Stream.cut_keeps _ hx).trans h.keeps, h.enrolled,
        fun hn => h.noEmpty fun f hf => (List.mem_append.1 hf).elim (hn f) (hx.ne_nil f),
        fun hm => h.noMeta fun f hf => ?_⟩
      rcases List.mem_append.1 hf with hf | hf
      · exact hm f hf
      · exact hx.noMeta f hf
    | emit op =>
      rw [Run.exec_emit, flatRun_emit]
      rcases op r.stream.enc with ⟨enc', e | rows⟩
      · exact ⟨rfl, by simp [Run.allRows'], rfl, r.stream.withEnc_keeps enc', rfl, id, id⟩
      · have h := ih { r with stream := ({ r.stream with enc := enc' } : Stream).pushRows rows }
        exact ⟨h.enc, by rw [h.rows]; simp [Run.allRows', Stream.pushRows], h.err,
          ((r.stream.withEnc_keeps enc').trans (Stream.pushRows_keeps _ rows)).trans h.keeps,
          h.enrolled, h.noEmpty, h.noMeta⟩

/-- A whole call on a stream that has not been used: the options row, then what the commands write. -/
theorem Run.exec_fresh_rows {s : Stream} (he : s.enrolled = false) (hr : s.flow.rows = []) (cs : List Cmd) :
    Run.allRows' (Run.exec { stream := s.enroll } cs) = s.optionsRow :: (flatRun s.enc cs).2.1 := by
  rw [(Run.exec_flat cs _).rows, Stream.enroll_enc]
  simp [Run.allRows', s.enroll_rows, he, hr]

theorem Run.exec_err {r : Run} (hr : r.err = none) (cs : List Cmd) :
    (r.exec cs).err = (flatRun r.stream.enc cs).2.2 := by
  rw [(Run.exec_flat cs r).err, hr, Option.or_none]

/-- Two streams that differ at most in their flow stay so under any commands, and the outcome is the same. -/
theorem Run.exec_psim {A₁ A₂ : List Row} {s₁ s₂ : Stream} (h : PSim A₁ s₁ A₂ s₂) (cs : List Cmd) :
    PSim (A₁ ++ (Run.exec { stream := s₁ } cs).frames.flatMap (·.rows)) (Run.exec { stream := s₁ } cs).stream
         (A₂ ++ (Run.exec { stream := s₂ } cs).frames.flatMap (·.rows)) (Run.exec { stream := s₂ } cs).stream ∧
    (Run.exec { stream := s₁ } cs).err = (Run.exec { stream := s₂ } cs).err := by
  obtain ⟨hf, hr⟩ := h
  have h₁ := Run.exec_flat cs { stream := s₁ }
  have h₂ := Run.exec_flat cs { stream := s₂ }
  rw [show ({ stream := s₁ } : Run).stream.enc = ({ stream := s₂ } : Run).stream.enc from hf.2.2.1] at h₁
  refine ⟨⟨hf.of_keeps h₁.keeps h₂.keeps (h₁.enc.trans h₂.enc.symm)
    (h₁.enrolled.trans (hf.2.2.2.1.trans h₂.enrolled.symm)), ?_⟩, h₁.err.trans h₂.err.symm⟩
  have r₁ := h₁.rows
  have r₂ := h₂.rows
  simp only [Run.allRows', List.flatMap_nil, List.nil_append] at r₁ r₂
  rw [List.append_assoc, r₁, List.append_assoc, r₂, ← List.append_assoc, hr, List.append_assoc]

theorem flatRun_append (a b : List Cmd) (enc : EncState) :
    flatRun enc (a ++ b) =
      match (flatRun enc a).2.2 with
      | some e => ((flatRun enc a).1, (flatRun enc a).2.1, some e)
      | none => ((flatRun (flatRun enc a).1 b).1, (flatRun enc a).2.1 ++ (flatRun (flatRun enc a).1 b).2.1,
                 (flatRun (flatRun enc a).1 b).2.2) := by
  induction a generalizing enc with
  | nil => simp
  | cons c a ih =>
    cases c with
    | cut k => exact ih enc
    | emit op =>
      rw [List.cons_append, flatRun_emit, flatRun_emit]
      rcases op enc with ⟨enc', e | rows⟩
      · rfl
      · dsimp only
        rw [ih enc']
        rcases (flatRun enc' a).2.2 with _ | e <;> simp

theorem Run.exec_append_ok {r : Run} (hr : r.err = none) (a b : List Cmd) :
    r.exec (a ++ b) = if (r.exec a).err.isSome then r.exec a else (r.exec a).exec b := by
  induction a generalizing r with
  | nil => simp [hr]
  | cons c a ih =>
    cases c with
    | cut k => exact ih (r := r.pushCut _) hr
    | emit op =>
      rw [List.cons_append, Run.exec_emit, Run.exec_emit]
      rcases op r.stream.enc with ⟨enc', e | rows⟩
      · rfl
      · exact ih (r := { r with stream := _ }) hr

/-- A run that did not fail did not fail half-way. -/
theorem Run.exec_append_of_ok {r : Run} (hr : r.err = none) {a b : List Cmd} (h : (r.exec (a ++ b)).err = none) :
    (r.exec a).err = none ∧ r.exec (a ++ b) = (r.exec a).exec b := by
  rw [Run.exec_append_ok hr] at h ⊢
  split at h <;> rename_i hs
  · rw [h] at hs; cases hs
  · exact ⟨by simpa using hs, if_neg hs⟩

theorem Run.exec_flush {r : Run} (hr : r.err = none) (cs : List Cmd)
    (h : (r.exec (cs ++ [.cut .all])).err = none) : (r.exec (cs ++ [.cut .all])).stream.flow.rows = [] := by
  rw [(Run.exec_append_of_ok hr h).2]
  exact Flow.toStreamFrame_rows _

theorem Run.exec_frames (cs : List Cmd) (r : Run) :
    r.exec cs = { stream := (Run.exec { stream := r.stream } cs).stream,
                  frames := r.frames ++ (Run.exec { stream := r.stream } cs).frames,
                  err := (Run.exec { stream := r.stream } cs).err.or r.err } := by
  induction cs generalizing r with
  | nil => simp
  | cons c cs ih =>
    cases c with
    | cut k =>
      rw [Run.exec_cut, ih, Run.exec_cut, ih (Run.pushCut _ _)]
      simp [Run.pushCut, List.append_assoc]
    | emit op =>
      rw [Run.exec_emit, Run.exec_emit]
      rcases op r.stream.enc with ⟨enc', e | rows⟩
      · simp
      · dsimp only
        rw [ih]

/-- `P` holds of the encoder operation of an `emit`; a `cut` is not constrained. -/
def Cmd.All (P : EncOp → Prop) : Cmd → Prop
  | .emit op => P op
  | .cut _ => True

/-- When `op` succeeds it keeps the encoder invariant `I` and writes only rows satisfying `R`
    (`Run.exec_rows_all` carries this over a command list). -/
def EncOp.Sound (I : EncState → Prop) (R : Row → Prop) (op : EncOp) : Prop :=
  ∀ enc enc' rows, I enc → op enc = (enc', .ok rows) → I enc' ∧ ∀ x ∈ rows, R x

theorem Run.exec_rows_all {I : EncState → Prop} {R : Row → Prop} {cs : List Cmd}
    (h : ∀ c ∈ cs, c.All (EncOp.Sound I R)) {r : Run} (hi : I r.stream.enc) (hr : ∀ x ∈ Run.allRows' r, R x) :
    (∀ x ∈ Run.allRows' (r.exec cs), R x) ∧ ((r.exec cs).err = none → I (r.exec cs).stream.enc) := by
  induction cs generalizing r with
  | nil => exact ⟨hr, fun _ => hi⟩
  | cons c cs ih =>
    have ih' := fun {r} => ih (fun c hc => h c (List.mem_cons_of_mem _ hc)) (r := r)
    cases c with
    | cut k => exact ih' hi (by rw [Run.allRows'_pushCut r (k.apply_isCut _)]; exact hr)
    | emit op =>
      have hop : EncOp.Sound I R op := h _ List.mem_cons_self
      rw [Run.exec_emit]
      rcases ho : op r.stream.enc with ⟨enc', e | rows⟩
      · exact ⟨hr, by simp⟩
      · obtain ⟨hi', hrows⟩ := hop _ _ _ hi ho
        refine ih' hi' fun x hx => ?_
        have : x ∈ Run.allRows' r ++ rows := by simpa [Run.allRows', rowsOf, Stream.pushRows] using hx
        exact (List.mem_append.1 this).elim (hr x) (hrows x)

end Jelly
