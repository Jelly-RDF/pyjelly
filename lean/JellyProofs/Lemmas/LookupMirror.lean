import JellyModel.Joint
import JellyProofs.Lemmas.TableSim
/-!
# Writer table against pyjelly's reader table: the joint run (C05)

The raw tables of the joint run (`JellyModel/Joint.lean`) are the tables of `TableSim` with pin tracking off and a
positive size: `Lookup.WFm` is `Lookup.WF` of such a table, `Mirror` is `EMirror` on it. Without pins `entryIndex`
never fails, pyjelly's reader accepts the entry row of every successful call, and the pair stays mirrored; the joint
run is that step repeated.
-/
namespace Jelly

/-- `Lookup.WF` of an enabled table (`Lookup.WFm_iff`): `0 < maxSize` sits inside, which is what the joint run and
    the side conditions of the translated code want. -/
structure Lookup.WFm (l : Lookup) : Prop where
  pos : 0 < l.maxSize
  keysNodup : (l.data.map (·.1)).Nodup
  idxPerm : (l.data.map (·.2)).Perm (List.range' 1 l.data.length)
  lenLe : l.data.length ≤ l.maxSize
  ev : l.evicting = (l.data.length == l.maxSize)

/-- `EMirror` on a raw (`np`), enabled (`wf`) table, `la` written the other way round (`Mirror_iff`). -/
structure Mirror (e : LookupEnc) (d : LookupDec) : Prop where
  wf : e.lookup.WFm
  size : d.size = e.lookup.maxSize
  len : d.data.length = e.lookup.maxSize
  la : e.lastAssigned = d.lastAssigned
  res : ∀ k i, (k, i) ∈ e.lookup.data → d.data[i - 1]? = some (some k)
  /-- the tables of the joint run are raw tables: no row-local pin tracking -/
  np : e.lookup.pinned = none

theorem Lookup.WFm_iff {l : Lookup} : l.WFm ↔ l.WF ∧ 0 < l.maxSize :=
  ⟨fun h => ⟨⟨h.keysNodup, h.idxPerm, h.lenLe, fun _ => h.ev⟩, h.pos⟩,
   fun ⟨h, hp⟩ => ⟨hp, h.keysNodup, h.idxPerm, h.lenLe, h.ev hp⟩⟩

theorem Mirror_iff {e : LookupEnc} {d : LookupDec} :
    Mirror e d ↔ e.lookup.WFm ∧ EMirror e d ∧ e.lookup.pinned = none :=
  ⟨fun m => ⟨m.wf, ⟨m.size, m.len, m.la.symm, m.res⟩, m.np⟩,
   fun ⟨w, m, n⟩ => ⟨w, m.size, m.len, m.la.symm, m.res, n⟩⟩

theorem Lookup.WFm.idx_range {l : Lookup} (wf : l.WFm) {k i} (h : (k, i) ∈ l.data) :
    1 ≤ i ∧ i ≤ l.data.length :=
  (Lookup.WFm_iff.mp wf).1.idx_range h

/-- Python's `next(iter(data))` in `insert` never meets an empty dict. -/
theorem Lookup.WFm.evicting_nonempty {l : Lookup} (wf : l.WFm) : l.evicting = true → l.data ≠ [] := by
  intro hev hnil
  have h1 := wf.ev
  have h2 := wf.pos
  rw [hev, hnil] at h1
  simp at h1
  omega

theorem Lookup.moveToEnd_perm {l l' : Lookup} {k} (h : l.moveToEnd k = some l') :
    l'.data.Perm l.data ∧ l'.maxSize = l.maxSize ∧ l'.evicting = l.evicting := by
  obtain ⟨i, hm, rfl⟩ := Lookup.moveToEnd_some h
  exact ⟨Lookup.bump_perm hm, Lookup.bump_maxSize _ _, Lookup.bump_evicting _ _⟩

theorem Lookup.moveToEnd_none {l : Lookup} {k} (h : l.moveToEnd k = none) :
    ∀ e ∈ l.data, e.1 ≠ k := by
  unfold Lookup.moveToEnd at h
  split at h
  · rename_i hf
    intro e he hk
    exact Lookup.find?_eq_none.mp hf (hk ▸ List.mem_map.mpr ⟨e, he, rfl⟩)
  · cases h

theorem LookupDec.assignEntry_spec {d : LookupDec} {id i : Nat} {v : String} (hi : 1 ≤ i)
    (hlt : i ≤ d.data.length)
    (hid : (if id == 0 then d.lastAssigned + 1 else id) = i) :
    d.assignEntry id v = .ok { d with data := d.data.set (i - 1) (some v), lastAssigned := i } := by
  have hlt' : i - 1 < d.data.length := by omega
  simp only [LookupDec.assignEntry, hid, hlt', if_true]

theorem LookupDec.at_spec {d : LookupDec} {i : Nat} {k : String} (hi : 1 ≤ i)
    (h : d.data[i - 1]? = some (some k)) :
    d.at i = ({ d with lastReused := i }, .ok k) := by
  have hne : (i == 0) = false := by simp; omega
  simp only [LookupDec.at, hne, h]
  rfl

/-- pyjelly's reader reads the shortest form of a name or prefix index back as the index. -/
theorem LookupDec.nameTerm_short {d : LookupDec} {i : Nat} {k : String} (hi : 1 ≤ i)
    (h : d.data[i - 1]? = some (some k)) :
    d.nameTerm (if i == d.lastReused + 1 then 0 else i) = ({ d with lastReused := i }, .ok k) := by
  have hne : (i == 0) = false := by simp; omega
  have hn : (i != 0) = true := by simp; omega
  rw [← LookupDec.at_spec hi h]
  unfold LookupDec.nameTerm
  by_cases hc : i = d.lastReused + 1
  · simp [← hc, hne]
  · have hb : (i == d.lastReused + 1) = false := by simpa using hc
    simp only [hb, Bool.false_eq_true, if_false, hn, if_true, hne]

theorem LookupDec.prefixTerm_short {d : LookupDec} {i : Nat} {k : String} (hi : 1 ≤ i)
    (h : d.data[i - 1]? = some (some k)) :
    d.prefixTerm (if i == d.lastReused then 0 else i) = ({ d with lastReused := i }, .ok k) := by
  have hne : (i == 0) = false := by simp; omega
  have hn : (i != 0) = true := by simp; omega
  rw [← LookupDec.at_spec hi h]
  unfold LookupDec.prefixTerm
  by_cases hc : i = d.lastReused
  · simp [← hc, hne]
  · have hb : (i == d.lastReused) = false := by simpa using hc
    simp only [hb, Bool.false_eq_true, if_false, hn, if_true, hne]

theorem LookupDec.datatypeTerm_spec {d : LookupDec} {i : Nat} {k : String} (hi : 1 ≤ i)
    (h : d.data[i - 1]? = some (some k)) :
    d.datatypeTerm i = ({ d with lastReused := i }, .ok k) := by
  have hne : (i == 0) = false := by simp; omega
  simp only [LookupDec.datatypeTerm, hne, Bool.false_eq_true, if_false]
  exact LookupDec.at_spec hi h

theorem Mirror.init {n : Nat} (h : 0 < n) :
    Mirror (LookupEnc.new n) { size := n, data := List.replicate n none } :=
  Mirror_iff.mpr ⟨Lookup.WFm_iff.mpr ⟨Lookup.WF.new n, h⟩, EMirror.new n, rfl⟩

/-- A reference to a resident key only reorders `data`; `Mirror` does not look at `lastReused`. -/
theorem Mirror.bump {e : LookupEnc} {d : LookupDec} (m : Mirror e d) {k i}
    (h : (k, i) ∈ e.lookup.data) (a b : Nat) :
    Mirror { e with lookup := e.lookup.bump (k, i), lastReused := a } { d with lastReused := b } := by
  obtain ⟨wf, hpos⟩ := Lookup.WFm_iff.mp m.wf
  exact ⟨Lookup.WFm_iff.mpr ⟨wf.bump h, by simpa using hpos⟩, by simpa using m.size, by simpa using m.len,
    m.la, fun k' i' h' => m.res k' i' ((Lookup.mem_bump h).mp h'), by rw [Lookup.bump_pinned, m.np]; rfl⟩

theorem Mirror.entry_hit {e : LookupEnc} {d : LookupDec} {k} (m : Mirror e d) {l'}
    (h : e.lookup.moveToEnd k = some l') : Mirror { e with lookup := l' } d := by
  obtain ⟨i, hm, rfl⟩ := Lookup.moveToEnd_some h
  exact m.bump hm e.lastReused d.lastReused

/-- A successful `entryIndex` on a mirrored pair: pyjelly's reader accepts the entry row (if any),
    whose id is at most the table size, and the pair stays mirrored. -/
theorem EntryCase.jmirror {e e' : LookupEnc} {k oid} {d : LookupDec} (m : Mirror e d)
    (c : EntryCase e k e' oid) :
    ∃ d', (match oid with
        | none => d' = d
        | some id => d.assignEntry id k = .ok d' ∧ id ≤ e.lookup.maxSize) ∧
      Mirror e' d' ∧ d'.lastReused = d.lastReused := by
  obtain ⟨wfm, em, np⟩ := Mirror_iff.mp m
  obtain ⟨wf, hpos⟩ := Lookup.WFm_iff.mp wfm
  have wfm' : e'.lookup.WFm := Lookup.WFm_iff.mpr ⟨(c.basic wf hpos).1, by rw [(c.spec wf).1]; exact hpos⟩
  have np' : e'.lookup.pinned = none := by rw [c.pinned, np]; rfl
  obtain ⟨d', hing, em', hlr⟩ := c.mirror wf em
  refine ⟨d', ?_, Mirror_iff.mpr ⟨wfm', em', np'⟩, hlr⟩
  obtain ⟨-, ⟨rfl, -⟩ | ⟨i, rfl, -, h1, h2, -⟩⟩ := c.spec wf
  · exact (Except.ok.inj hing).symm
  · -- `Spec.assign` and `assignEntry` write the same slot
    rw [ingestEntry, assign_eq h1 (by rw [em.size]; exact h2) (by rw [em.la]; exact entryId_short _ _ h1)] at hing
    rw [← Except.ok.inj hing]
    exact ⟨LookupDec.assignEntry_spec h1 (by rw [em.len]; exact h2) (by rw [em.la]; exact entryId_short _ _ h1),
      by split <;> omega⟩

theorem Mirror.entry_miss {e : LookupEnc} {d : LookupDec} {k} (m : Mirror e d)
    (h : e.lookup.moveToEnd k = none) :
    ∃ l' idx d', e.lookup.insert k = .ok (l', idx) ∧
      d.assignEntry (if idx == e.lastAssigned + 1 then 0 else idx) k = .ok d' ∧
      Mirror { e with lookup := l', lastAssigned := idx } d' ∧
      (if idx == e.lastAssigned + 1 then 0 else idx) ≤ e.lookup.maxSize ∧
      l'.maxSize = e.lookup.maxSize ∧ (k, idx) ∈ l'.data ∧
      d'.lastReused = d.lastReused := by
  obtain ⟨wf, hpos⟩ := Lookup.WFm_iff.mp m.wf
  obtain ⟨e', oid, heq, c⟩ := entryIndex_cases_unpinned wf hpos m.np k
  obtain ⟨d', hd, m', hlr⟩ := c.jmirror m
  -- read `insert`'s result off `entryIndex`
  simp only [LookupEnc.entryIndex, h] at heq
  cases hi : e.lookup.insert k with
  | error err => simp [hi] at heq
  | ok r =>
    obtain ⟨l', idx⟩ := r
    simp only [hi, Except.ok.injEq, Prod.mk.injEq] at heq
    obtain ⟨rfl, rfl⟩ := heq
    obtain ⟨hmax, ⟨ho, -⟩ | ⟨i, -, rfl, -, -, -, -, hold⟩⟩ := c.spec wf
    · cases ho
    · exact ⟨l', _, d', rfl, hd.1, m', hd.2, hmax, (hold k _).mpr (Or.inl rfl), hlr⟩

/-- The invariant of the joint run: mirrored tables, equal `lastReused` cursors. `lrLe` (the cursor stays within the
    table) is carried along; no step reads it. -/
structure JointInv (e : LookupEnc) (d : LookupDec) : Prop where
  mirror : Mirror e d
  lr : e.lastReused = d.lastReused
  lrLe : e.lastReused ≤ e.lookup.maxSize

theorem JointInv.init {n : Nat} (h : 0 < n) :
    JointInv (LookupEnc.new n) { size := n, data := List.replicate n none } :=
  ⟨Mirror.init h, rfl, Nat.zero_le _⟩

/-- Term step of the joint run on a resident key: the rule's writer function succeeds, the reader
    resolves the emitted index (zero forms included) to the key, and the invariant is kept. -/
theorem JointInv.term_step (rule : Rule) {e : LookupEnc} {d : LookupDec} (inv : JointInv e d)
    {k i} (h : (k, i) ∈ e.lookup.data) :
    ∃ e' idx d', rule.encTerm e k = .ok (e', idx) ∧ rule.decTerm d idx = (d', .ok k) ∧
      JointInv e' d' ∧ e'.lookup.maxSize = e.lookup.maxSize ∧ idx ≤ e.lookup.maxSize := by
  have m := inv.mirror
  obtain ⟨wf, hpos⟩ := Lookup.WFm_iff.mp m.wf
  obtain ⟨h1, h2⟩ := wf.idx_le_max h
  have hres := m.res k i h
  have hlr := inv.lr
  have hmax : (e.lookup.bump (k, i)).maxSize = e.lookup.maxSize := Lookup.bump_maxSize _ _
  have hinv' : JointInv { e with lookup := e.lookup.bump (k, i), lastReused := i } { d with lastReused := i } :=
    ⟨m.bump h i i, rfl, by rw [hmax]; exact h2⟩
  cases rule with
  | name =>
    exact ⟨_, _, _, nameTermIndex_exact wf h, hlr ▸ LookupDec.nameTerm_short h1 hres, hinv', hmax,
      by split <;> omega⟩
  | «prefix» =>
    simp only [Rule.encTerm, Rule.decTerm]
    rw [prefixTermIndex_exact wf hpos h]
    by_cases hsc : k = "" ∧ e.lastReused = 0
    · rw [if_pos hsc]
      refine ⟨e, 0, d, rfl, ?_, inv, rfl, Nat.zero_le _⟩
      simp [LookupDec.prefixTerm, ← hlr, hsc.1, hsc.2]
    · rw [if_neg hsc]
      exact ⟨_, _, _, rfl, hlr ▸ LookupDec.prefixTerm_short h1 hres, hinv', hmax, by split <;> omega⟩
  | datatype =>
    exact ⟨_, i, _, datatypeTermIndex_exact wf hpos h, LookupDec.datatypeTerm_spec h1 hres, hinv', hmax, h2⟩

/-- "Entry (if any), then reference" for one key on an enabled raw table against pyjelly's reader
    table: nothing fails, the reader resolves the emitted index to the key, the invariant is kept and
    every id on the wire is at most the table size. -/
theorem JointInv.use (rule : Rule) {e : LookupEnc} {d : LookupDec} (inv : JointInv e d) (k : String) :
    ∃ e1 oid d1 e2 idx d2, e.entryIndex k = .ok (e1, oid) ∧
      (match oid with | none => d1 = d | some id => d.assignEntry id k = .ok d1) ∧
      rule.encTerm e1 k = .ok (e2, idx) ∧ rule.decTerm d1 idx = (d2, .ok k) ∧ JointInv e2 d2 ∧
      e2.lookup.maxSize = e.lookup.maxSize ∧ idx ≤ e.lookup.maxSize ∧
      ∀ id, oid = some id → id ≤ e.lookup.maxSize := by
  obtain ⟨wf, hpos⟩ := Lookup.WFm_iff.mp inv.mirror.wf
  obtain ⟨e1, oid, hent, c⟩ := entryIndex_cases_unpinned wf hpos inv.mirror.np k
  obtain ⟨_, hmax1, hlr1, i, hres⟩ := c.basic wf hpos
  obtain ⟨d1, hd, m1, hlrd⟩ := c.jmirror inv.mirror
  have inv1 : JointInv e1 d1 := ⟨m1, by rw [hlr1, hlrd]; exact inv.lr, by rw [hlr1, hmax1]; exact inv.lrLe⟩
  obtain ⟨e2, idx, d2, henc, hdec, inv2, hmax2, hidx⟩ := inv1.term_step rule hres
  refine ⟨e1, oid, d1, e2, idx, d2, hent, ?_, henc, hdec, inv2, hmax2.trans hmax1, hmax1 ▸ hidx, ?_⟩
  · cases oid with
    | none => exact hd
    | some id => exact hd.1
  · rintro id rfl
    exact hd.2

theorem jointStep_spec (rule : Rule) {e : LookupEnc} {d : LookupDec} (inv : JointInv e d)
    (k : String) :
    ∃ e' d' o, jointStep rule (e, d) k = .ok ((e', d'), o) ∧ JointInv e' d' ∧
      e'.lookup.maxSize = e.lookup.maxSize ∧ o.resolved = k ∧ o.idx ≤ e.lookup.maxSize ∧
      (∀ id, o.entry = some id → id ≤ e.lookup.maxSize) := by
  have hpos : (e.lookup.maxSize == 0) = false := by have := inv.mirror.wf.pos; simp; omega
  obtain ⟨e1, oid, d1, e2, idx, d2, hent, hass, henc, hdec, inv2, hmax, hidx, hid⟩ := inv.use rule k
  refine ⟨e2, d2, ⟨oid, idx, k⟩, ?_, inv2, hmax, rfl, hidx, hid⟩
  cases oid with
  | none => subst hass; simp only [jointStep, hpos, hent, henc, hdec, Bool.false_eq_true, if_false]
  | some id => simp only [jointStep, hpos, hent, hass, henc, hdec, Bool.false_eq_true, if_false]

/-- The whole joint run from an invariant state: no failure, outputs appended to the accumulator
    resolve exactly the key history, all emitted ids are bounded by the size, invariant kept. -/
theorem jointRun_spec (rule : Rule) (ks : List String) :
    ∀ (st : LookupEnc × LookupDec) (acc : List JointOut), JointInv st.1 st.2 →
      ∃ outs, (jointRun rule st ks acc).2.1 = acc ++ outs ∧
        (jointRun rule st ks acc).2.2 = none ∧
        outs.map (·.resolved) = ks ∧
        (∀ o ∈ outs, o.idx ≤ st.1.lookup.maxSize ∧
          ∀ id, o.entry = some id → id ≤ st.1.lookup.maxSize) ∧
        JointInv (jointRun rule st ks acc).1.1 (jointRun rule st ks acc).1.2 ∧
        (jointRun rule st ks acc).1.1.lookup.maxSize = st.1.lookup.maxSize := by
  induction ks with
  | nil =>
    intro st acc inv
    exact ⟨[], by simp [jointRun], by simp [jointRun], rfl, by simp, by simpa [jointRun] using inv,
      by simp [jointRun]⟩
  | cons k ks ih =>
    intro st acc inv
    obtain ⟨e, d⟩ := st
    obtain ⟨e', d', o, hstep, inv', hmax, hres, hidx, hent⟩ := jointStep_spec rule inv k
    obtain ⟨outs, h1, h2, h3, h4, h5, h6⟩ := ih (e', d') (acc ++ [o]) inv'
    have hrun : jointRun rule (e, d) (k :: ks) acc = jointRun rule (e', d') ks (acc ++ [o]) := by
      simp only [jointRun, hstep]
    rw [hrun]
    refine ⟨o :: outs, by rw [h1]; simp, h2, by simp [hres, h3], ?_, h5, by rw [h6]; exact hmax⟩
    intro o' ho'
    rcases List.mem_cons.mp ho' with ho' | ho'
    · subst ho'; exact ⟨hidx, hent⟩
    · have := h4 o' ho'
      simp only [hmax] at this
      exact this

theorem jointStep_prefix_disabled {e : LookupEnc} {d : LookupDec} (h0 : e.lookup.maxSize = 0)
    (hd : d.lastReused = 0) (k : String) :
    jointStep .prefix (e, d) k = .ok ((e, d), ⟨none, 0, ""⟩) := by
  have hpos : (e.lookup.maxSize == 0) = true := by simp [h0]
  simp [jointStep, hpos, Rule.encTerm, Rule.decTerm, LookupEnc.prefixTermIndex,
    LookupDec.prefixTerm, hd]

theorem jointRun_prefix_disabled (ks : List String) :
    ∀ (st : LookupEnc × LookupDec) (acc : List JointOut), st.1.lookup.maxSize = 0 →
      st.2.lastReused = 0 →
      jointRun .prefix st ks acc = (st, acc ++ List.replicate ks.length ⟨none, 0, ""⟩, none) := by
  induction ks with
  | nil => intro st acc _ _; simp [jointRun]
  | cons k ks ih =>
    intro st acc h0 hd
    obtain ⟨e, d⟩ := st
    simp only [jointRun, jointStep_prefix_disabled h0 hd k]
    rw [ih (e, d) _ h0 hd]
    simp [List.replicate_succ]

end Jelly
