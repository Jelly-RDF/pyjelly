import JellyModel.Parse
import JellyProofs.Lemmas.HeaderLoop
import JellyProofs.Lemmas.DecodeEqs
/-!
# Inputs shorter than three bytes

They are routed to the single-frame path (the detector needs three bytes to say "delimited"), and a frame of at most
two bytes has no room for a row body: every length-delimited payload among the fields of a message is at least two bytes
shorter than the message (`splitFields_len_bound`). So no options row is found and nothing is parsed.
-/
namespace Jelly

theorem SourceKind.header_length_le (kind : SourceKind) (b : Bytes) :
    (kind.header b).length ≤ b.length := by
  rw [SourceKind.header_eq_take]; exact List.length_take_le' _ _

theorem readVarintAux_length_lt (fuel sh acc : Nat) (b : Bytes) (v : Nat) (r : Bytes) :
    readVarintAux fuel sh acc b = some (v, r) → r.length < b.length := by
  fun_induction readVarintAux fuel sh acc b with
  | case3 fuel sh acc x xs acc' hx =>  -- last byte
    intro h
    cases (Prod.mk.inj (Option.some.inj h)).2
    exact Nat.lt_succ_self _
  | case4 fuel sh acc x xs acc' hx ih => exact fun h => Nat.lt_succ_of_lt (ih h)  -- continuation byte
  | _ => intro h; cases h  -- out of fuel or of input

theorem readVarint_length_lt (b : Bytes) (v : Nat) (r : Bytes) (h : readVarint b = some (v, r)) :
    r.length < b.length := by
  revert h
  fun_cases readVarint b with
  | case1 v' r' hv =>  -- a varint was read
    intro h
    cases (Prod.mk.inj (Option.some.inj h)).2
    exact readVarintAux_length_lt _ _ _ _ _ _ hv
  | case2 => intro h; cases h  -- none

theorem mem_of_map_cons {hd x : Field} {o : Option (List Field)} {fs : List Field}
    (h : o.map (hd :: ·) = some fs) (hm : x ∈ fs) : x = hd ∨ ∃ fs', o = some fs' ∧ x ∈ fs' := by
  obtain ⟨fs', h', rfl⟩ := Option.map_eq_some_iff.1 h
  exact (List.mem_cons.1 hm).imp_right fun hx => ⟨fs', h', hx⟩

/-- Every length-delimited payload among the top-level fields of `b` is at least two bytes shorter
    than `b` (one tag byte, one length byte). By the induction principle of `splitFields`: every branch
    that goes on hands the rest of the field list a shorter suffix of the input. -/
theorem splitFields_len_bound (fuel : Nat) (b : Bytes) (fs : List Field)
    (h : splitFields fuel b = some fs) (n : Nat) (p : Bytes) (hm : (n, WireVal.len p) ∈ fs) :
    p.length + 2 ≤ b.length := by
  fun_induction splitFields fuel b generalizing fs with
  | case2 => cases h; cases hm  -- input used up: no field
  | case5 fuel b _ t rest hv _ _ _ _ v r hv2 ih =>  -- wire type 0: varint
    have := readVarint_length_lt _ _ _ hv
    have := readVarint_length_lt _ _ _ hv2
    rcases mem_of_map_cons h hm with e | ⟨fs', h', hm'⟩
    · cases (Prod.mk.inj e).2
    · have := ih _ h' hm'
      omega
  | case8 fuel b _ t rest hv _ _ _ _ _ _ ih =>  -- wire type 1: fixed64
    have := readVarint_length_lt _ _ _ hv
    rcases mem_of_map_cons h hm with e | ⟨fs', h', hm'⟩
    · cases (Prod.mk.inj e).2
    · have := ih _ h' hm'
      simp only [List.length_drop] at this
      omega
  | case10 fuel b _ t rest hv _ _ _ _ _ _ v r hv2 hl ih =>  -- wire type 2: length-delimited
    have := readVarint_length_lt _ _ _ hv
    have := readVarint_length_lt _ _ _ hv2
    rcases mem_of_map_cons h hm with e | ⟨fs', h', hm'⟩
    · cases (Prod.mk.inj e).2
      simp only [List.length_take]
      omega
    · have := ih _ h' hm'
      simp only [List.length_drop] at this
      omega
  | case12 fuel b _ t rest hv _ _ _ _ _ _ _ r _ hl ih =>  -- wire type 3: a group, skipped
    have := readVarint_length_lt _ _ _ hv
    have := ih _ h hm
    omega
  | case16 fuel b _ t rest hv _ _ _ _ _ _ _ _ _ ih =>  -- wire type 5: fixed32
    have := readVarint_length_lt _ _ _ hv
    rcases mem_of_map_cons h hm with e | ⟨fs', h', hm'⟩
    · cases (Prod.mk.inj e).2
    · have := ih _ h' hm'
      simp only [List.length_drop] at this
      omega
  | _ => cases h  -- malformed: none

theorem fieldsOf_len_bound (b : Bytes) (fs : List Field) (h : fieldsOf b = .ok fs) :
    ∀ n p, (n, WireVal.len p) ∈ fs → p.length + 2 ≤ b.length := by
  revert h
  fun_cases fieldsOf b with
  | case1 fs' hfs => intro h; cases h; exact splitFields_len_bound _ _ _ hfs  -- the fields split
  | case2 => intro h; cases h  -- DecodeError

/-- Every field of a frame of at most two bytes has an empty payload, and the empty payload is the row `Row.empty`. -/
theorem decFrame_short_rows (b : Bytes) (hl : b.length ≤ 2) (f : Frame) (h : decFrame b = .ok f) :
    ∀ r ∈ f.rows, r = Row.empty := by
  obtain ⟨fs, hfs, h⟩ := Except.bind_eq_ok.1 (show (fieldsOf b >>= _) = _ from h)
  have hb : ∀ n p, (n, WireVal.len p) ∈ fs → p = [] := fun n p hm =>
    List.eq_nil_of_length_eq_zero (by have := fieldsOf_len_bound b fs hfs n p hm; omega)
  have hinit : ∀ r ∈ ({} : Frame).rows, r = Row.empty := nofun
  clear hfs
  generalize ({} : Frame) = fr at h hinit
  induction fs generalizing fr with
  | nil => cases h; exact hinit
  | cons x fs ih =>
    obtain ⟨fr1, hs, h⟩ := Except.bind_eq_ok.1 (show (_ >>= _) = _ from h)
    refine ih (fun n p hm => hb n p (List.mem_cons_of_mem _ hm)) fr1 h ?_
    dsimp only at hs
    split at hs
    · -- a row field: its payload is empty
      rename_i p
      cases hb 1 p List.mem_cons_self
      cases hs
      intro r hr
      rcases List.mem_append.1 hr with hr | hr
      · exact hinit r hr
      · exact List.mem_singleton.1 hr
    · -- a metadata field
      obtain ⟨kv, -, hs⟩ := Except.bind_eq_ok.1 hs
      cases hs
      exact hinit
    · cases hs
      exact hinit

theorem getOptionsAndFrames_short (kind : SourceKind) (b : Bytes) (hl : b.length < 3) :
    ∃ e, getOptionsAndFrames kind b = .error e := by
  unfold getOptionsAndFrames
  have hh : delimitedHint (kind.header b) = false :=
    delimitedHint_short _ (Nat.lt_of_le_of_lt (SourceKind.header_length_le kind b) hl)
  simp only [hh, Bool.false_eq_true, if_false]
  cases hd : decFrame b with
  | error e => exact ⟨e, rfl⟩
  | ok f =>
    simp only
    have hrows := decFrame_short_rows b (by omega) f hd
    cases hr : f.rows with
    | nil => exact ⟨.conformance, by simp⟩
    | cons r rest =>
      have hre : r = Row.empty := hrows r (by rw [hr]; exact List.mem_cons_self)
      subst hre
      rw [optionsFromFrame_nonOptions hr nofun]
      exact ⟨.conformance, by simp⟩

end Jelly
