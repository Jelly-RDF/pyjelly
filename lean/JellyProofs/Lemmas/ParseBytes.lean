import JellyModel
import JellyProofs.WireRoundTrip
import JellyProofs.C01
import JellyProofs.C08
import JellyProofs.Lemmas.Truncation
/-!
# From frames to bytes and back through `parseFlat`

The framing stage (`get_options_and_frames` + the frame iterator) on the bytes of any list of frames whose
rows start with an options row, for both framings (`opened_of_frames`); then the flat parser on those
bytes does what `parseFrames` does on the frames (`parseFlat_of_frames`).
-/
namespace Jelly

theorem encFrame_length_ge_two (f : Frame) (hne : f.rows ≠ []) : 2 ≤ (encFrame f).length := by
  cases hr : f.rows with
  | nil => exact absurd hr hne
  | cons r rs =>
    have := varint_length_pos (encRow r).length
    simp only [encFrame, hr, List.flatMap_cons, lenDelim_one, List.length_append, List.length_cons]
    omega

theorem writeDelimited_length_ge_three (f : Frame) (hne : f.rows ≠ []) :
    3 ≤ (writeDelimited f).length := by
  have h1 := encFrame_length_ge_two f hne
  have h2 := varint_length_pos (encFrame f).length
  simp only [writeDelimited, List.length_append]
  omega

/-- Frames a producer may write in canonical protobuf encoding: rows representable on the wire, no
    frame metadata, each frame smaller than 2³² bytes (the bound of the `wire_*_roundtrip` statements of
    `WireRoundTrip.lean`, as in `Writable.lenSingle` and `framesSmall`; the lemmas under them need 2⁶⁴ only). -/
def framesEncodable (fs : List Frame) : Prop :=
  (∀ f ∈ fs, ∀ r ∈ f.rows, r.wireWF = true) ∧ (∀ f ∈ fs, f.metadata = []) ∧
  (∀ f ∈ fs, (encFrame f).length < 2 ^ 32)

/-- Frames that start with the options row `o` and that the wire format carries under the framing `delimited`. -/
structure Writable (delimited : Bool) (fs : List Frame) (o : Options) (rows : List Row) : Prop where
  head : fs.flatMap (·.rows) = .options o :: rows
  enc : framesEncodable fs
  lenSingle : delimited = false → (fs.flatMap writeSingle).length < 2 ^ 32

/-- The frames a reader sees: as written when delimited, merged into one when written bare. -/
def framesRead (delimited : Bool) (fs : List Frame) : List Frame :=
  if delimited then fs else [{ rows := fs.flatMap (·.rows) }]

/-- Empty frames are allowed anywhere, also before the frame that carries the options row. Delimited: the frame iterator
    reads the frames back (`wire_delimited_roundtrip`), and the search for the options finds the first non-empty one of
    them (`firstNonEmpty_of_restFrames`). -/
theorem opened_of_frames {fs : List Frame} {o : Options} {rows : List Row} {delimited : Bool}
    (hw : Writable delimited fs o rows) {opts : ParserOptions}
    (ho : optionsFromFrame { rows := .options o :: rows } delimited = .ok opts) :
    ∃ opened, getOptionsAndFrames .seekable
        (fs.flatMap fun f => if delimited then writeDelimited f else writeSingle f) = .ok opened ∧
      opened.opts = opts ∧ opened.frames = (framesRead delimited fs, none) := by
  obtain ⟨hrows, ⟨hwf, hm, hlen⟩, hlen1⟩ := hw
  have hdl : opts.delimited = delimited := by rw [(optionsFromFrame_inv rfl ho).1]; rfl
  obtain ⟨f, rs, hfind, hf⟩ := first_nonempty hrows
  cases delimited with
  | true =>
    have ho' : optionsFromFrame f true = .ok opts := by
      rw [optionsFromFrame_options hf, ← optionsFromFrame_options (f := { rows := .options o :: rows }) rfl]
      exact ho
    have hne : f.rows ≠ [] := by rw [hf]; simp
    simp only [if_true, framesRead]
    -- the first non-empty frame alone has three bytes: its length, the tag and the length of its first row
    have h3 : 3 ≤ (fs.flatMap writeDelimited).length :=
      Nat.le_trans (writeDelimited_length_ge_three f hne)
        (List.sublist_flatten_of_mem (List.mem_map_of_mem (List.mem_of_find?_eq_some hfind))).length_le
    have hhint : delimitedHint ((fs.flatMap writeDelimited).take 3) = true := by
      cases hfs' : fs with
      | nil => rw [hfs'] at hrows; simp at hrows
      | cons g fs' =>
        rw [hfs'] at h3
        rw [List.flatMap_cons] at h3 ⊢
        exact C08_hint_delimited g _ (fun _ => hm g (by rw [hfs']; simp)) h3
    obtain ⟨sk', tail', rest, hfs', hfne, hrest⟩ := firstNonEmpty_of_restFrames _ _ fs none f []
      (Nat.lt_succ_self _) (wire_delimited_roundtrip fs hwf hm hlen) hfind
    refine ⟨{ opts := opts, pending := sk' ++ [f], rest := rest }, ?_, rfl, ?_⟩
    · unfold getOptionsAndFrames
      simp only [SourceKind.header, hhint, if_true, hfne, ho', List.nil_append]
    · simp only [Opened.frames, hdl, if_true, hrest, hfs', List.append_assoc, List.singleton_append]
  | false =>
    simp only [Bool.false_eq_true, if_false, framesRead, hrows]
    have hbytes : fs.flatMap writeSingle = writeSingle { rows := .options o :: rows, metadata := [] } := by
      rw [writeSingle_concat fs hm, hrows, writeSingle, encFrame_eq _ rfl]
    have hhint : delimitedHint ((fs.flatMap writeSingle).take 3) = false := by
      rw [hbytes]
      exact C08_hint_single o rows []
    have hdec := wire_single_concat fs hwf hm (hlen1 rfl)
    rw [hrows] at hdec
    refine ⟨{ opts := opts, pending := [{ rows := .options o :: rows }], rest := [] }, ?_, rfl, ?_⟩
    · unfold getOptionsAndFrames
      simp only [SourceKind.header, hhint, Bool.false_eq_true, if_false, hdec, ho, List.isEmpty_cons]
    · simp only [Opened.frames, hdl, Bool.false_eq_true, if_false]

theorem framesRead_rows (delimited : Bool) (fs : List Frame) :
    (framesRead delimited fs).flatMap (·.rows) = fs.flatMap (·.rows) := by
  cases delimited <;> simp [framesRead]

/-- Both parsers are `decodeAll` over the same rows (`parseFrames_rows`, `parseFlat_eq`). -/
theorem parseFlat_of_frames {fs : List Frame} {o : Options} {rows : List Row} {evs : List Event} {delimited : Bool}
    (hw : Writable delimited fs o rows) (hpf : parseFrames fs delimited = .ok evs) :
    parseFlat .seekable (fs.flatMap fun f => if delimited then writeDelimited f else writeSingle f) false true
      = { events := evs, err := none } := by
  rw [parseFrames_rows hw.head] at hpf
  obtain ⟨opts, ho, hpf⟩ := Except.bind_eq_ok.1 hpf
  obtain ⟨hev, herr⟩ := okEvents_eq_ok hpf
  obtain ⟨opened, hgo, hopts, hframes⟩ := opened_of_frames hw ho
  rw [parseFlat_eq, hgo]
  dsimp only
  rw [hframes, hopts, framesRead_rows, hw.head]
  show FlatResult.mk (decodeAll true (fun _ => true) opts _).1 ((decodeAll true (fun _ => true) opts _).2.or none) = _
  rw [hev, herr]
  rfl

end Jelly
