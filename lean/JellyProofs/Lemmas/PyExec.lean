import JellyModel.PyPrelude
import JellyProofs.Lemmas.PyExecAttr
/-!
# Running a translated method: one equation per statement form

The `Translated*` modules prove that a generated method, run on the model's record of the attributes, does what a
model function says. They all go the same way: `M.exec m s` is never unfolded; `simp only [py_exec, …]` RUNS the
method, statement by statement, with the equations below, which say what each construct of the fragment
(`PyPrelude*.lean`) does to `exec`. A run stops, at an `andThen (outcome) rest`, where the outcome of a call depends
on the model; there the model's call is split (`rcases`), the refusing case closes, the other goes on. At a stop the
goal shows the rest of the method as source. Where the paths of the model function are tests on data (`Lookup.insert`),
or give the outcomes of the calls in the form the run meets them (`spoSpec`, `DecState.decodeSpo`), `fun_cases` on the
model function splits first and the method is run once per path with the path's hypotheses.
Three things make the run cost what the path costs and not what the method costs:

* The continuation of `andThen` is a PROGRAM (`rest : α → M σ β`), not a function on outcomes: there is no `exec`
  under its binder for simp to work on before the statement at hand has been run.
* The equations are pre-lemmas (`↓`): simp rewrites `m.exec s` at its head before it visits `m`; as post-lemmas they
  would make it traverse the rest of the method before every single step. For the same reason a running call that
  decides a test carries `↓reduceIte` (with `if_true` / `if_false` simp runs the dead branch first).
* `@[congr] andThen_congr` / `orCatch_congr` tell simp to simplify the outcome and leave the rest of the method alone.
  TRAP: the rule gets the proof of `x.exec s = outcome` as its hypothesis, so the equations that hold by unfolding are
  proved by `(rfl)`, not `rfl`. A `rfl` theorem is applied by `dsimp` without a proof term, the hypothesis of the rule
  then fails to unify, and simp silently falls back to walking the continuation (`set_option
  trace.Meta.Tactic.simp.congr true` shows it).

Equations of callees without a side condition are put under the attribute (where they are proved, or by an `attribute`
line in the module that first calls them when the theorem is a fixed one); those with one are passed instantiated
(`entry_index_exec _ _ hp`).
-/
namespace Jelly.Py
variable {σ τ ρ α β : Type}

/-- `a; rest`: run the rest of the method on the result and the attributes `a` left, or stop at its raise -/
def andThen (r : Except PyErr α × σ) (rest : α → M σ β) : Except PyErr β × σ :=
  match r with
  | (.ok a, s) => (rest a).exec s
  | (.error e, s) => (.error e, s)

@[py_exec ↓] theorem andThen_ok (a : α) (s : σ) (k : α → M σ β) : andThen (.ok a, s) k = (k a).exec s := (rfl)
@[py_exec ↓] theorem andThen_error (e : PyErr) (s : σ) (k : α → M σ β) :
    andThen (.error e, s) k = (.error e, s) := (rfl)

/-- simp runs the statement at hand and does not look into the rest of the method before its outcome is known -/
@[congr] theorem andThen_congr {r r' : Except PyErr α × σ} (k : α → M σ β) (h : r = r') : andThen r k = andThen r' k :=
  h ▸ rfl

@[py_exec ↓] theorem exec_pure (a : α) (s : σ) : (pure a : M σ α).exec s = (.ok a, s) := (rfl)

@[py_exec ↓] theorem exec_bind (x : M σ α) (f : α → M σ β) (s : σ) : (x >>= f).exec s = andThen (x.exec s) f := by
  simp only [bind, ExceptT.bind, ExceptT.mk, StateT.bind, ExceptT.bindCont, andThen, M.exec, ExceptT.run, StateT.run]
  rcases x s with ⟨_ | _, _⟩ <;> rfl

@[py_exec ↓] theorem exec_get (s : σ) : (get : M σ σ).exec s = (.ok s, s) := (rfl)
@[py_exec ↓] theorem exec_modify (f : σ → σ) (s : σ) : (modify f : M σ PUnit).exec s = (.ok ⟨⟩, f s) := (rfl)
@[py_exec ↓] theorem exec_throw (e : PyErr) (s : σ) : (throw e : M σ α).exec s = (.error e, s) := (rfl)

@[py_exec ↓] theorem exec_liftE (e : Except PyErr α) (s : σ) : (liftE e : M σ α).exec s = (e, s) := by
  cases e <;> rfl

@[py_exec ↓] theorem exec_zoom (g : σ → τ) (p : σ → τ → σ) (m : M τ α) (s : σ) :
    (zoom g p m).exec s = ((m.exec (g s)).1, p s (m.exec (g s)).2) := (rfl)

@[py_exec ↓] theorem exec_pyAssert (c : Bool) (s : σ) :
    (pyAssert c : M σ Unit).exec s = if c then (.ok (), s) else (.error .assertionError, s) := by
  cases c <;> rfl

/-- a statement whose outcome hangs on a test (an `assert`, a guarded raise): the rest runs in the branch that goes on
    -/
@[py_exec ↓] theorem andThen_ite (c : Prop) [Decidable c] (a b : Except PyErr α × σ) (k : α → M σ β) :
    andThen (if c then a else b) k = if c then andThen a k else andThen b k := by
  split <;> rfl

@[py_exec ↓] theorem exec_ite (c : Prop) [Decidable c] (x y : M σ α) (s : σ) :
    (if c then x else y).exec s = if c then x.exec s else y.exec s := by
  split <;> rfl

/-- `try: a  except e: handler e`: the result of `a`, or the handler run on the attributes `a` left when it raised -/
def orCatch (r : Except PyErr α × σ) (handler : PyErr → M σ α) : Except PyErr α × σ :=
  match r with
  | (.ok a, s) => (.ok a, s)
  | (.error e, s) => (handler e).exec s

@[py_exec ↓] theorem orCatch_ok (a : α) (s : σ) (h : PyErr → M σ α) : orCatch (.ok a, s) h = (.ok a, s) := (rfl)
@[py_exec ↓] theorem orCatch_error (e : PyErr) (s : σ) (h : PyErr → M σ α) :
    orCatch (.error e, s) h = (h e).exec s := (rfl)

@[congr] theorem orCatch_congr {r r' : Except PyErr α × σ} (h : PyErr → M σ α) (hr : r = r') :
    orCatch r h = orCatch r' h :=
  hr ▸ rfl

@[py_exec ↓] theorem exec_tryCatch (x : M σ α) (h : PyErr → M σ α) (s : σ) :
    (tryCatch x h).exec s = orCatch (x.exec s) h := by
  simp only [tryCatch, tryCatchThe, MonadExceptOf.tryCatch, ExceptT.tryCatch, ExceptT.mk, M.exec, ExceptT.run,
    StateT.run, bind, StateT.bind, orCatch]
  rcases x s with ⟨_ | _, _⟩ <;> rfl

@[py_exec ↓] theorem exec_pure_locals (a : α) (r : ρ) (s : σ) :
    ((pure a : StateT ρ (M σ) α) r).exec s = (.ok (a, r), s) := (rfl)

@[py_exec ↓] theorem exec_return (r : ρ) (s : σ) :
    M.exec (EarlyReturnT.return r : EarlyReturnT ρ (M σ) α) s = (.ok (.error r), s) := (rfl)

/- a test whose operands are known is decided while stepping (with `↓reduceIte` the branch not taken is not run) -/
attribute [py_exec] Bool.not_true Bool.not_false Bool.not_not Bool.false_eq_true

theorem construct_ok [Inhabited σ] {init : M σ Unit} {s : σ} (h : init.exec default = (.ok (), s)) :
    construct init = .ok s := by
  unfold construct; rw [h]

end Jelly.Py

/-! The ways the `Translated*` statements read a run `(result, attributes) = m.exec s`, and how they turn into each
other. -/
namespace Jelly.Translated
open Jelly Jelly.Py

/-- a run as the writer model's functions report it: attributes and result, or only the exception -/
def outcome (r : Except PyErr α × σ) : Except PyErr (σ × α) :=
  match r with
  | (.ok a, s) => .ok (s, a)
  | (.error e, _) => .error e

/-- a method result together with the attributes afterwards, as the reader model reports it -/
def swap (r : Except PyErr α × σ) : σ × Except PyErr α := (r.2, r.1)

theorem swap_eq {r : Except PyErr α × σ} {a : σ} {b : Except PyErr α} (h : swap r = (a, b)) : r = (b, a) := by
  obtain ⟨x, y⟩ := r
  simp only [swap, Prod.mk.injEq] at h
  rw [h.1, h.2]

/-- a `swap … = model` equation as a rewrite rule for the caller. (`swap_eq` would do, but it wants its right side to
    be a pair, and the unifier unfolds the model function to find one.) -/
theorem swap_exec {m : M σ α} {s : σ} {r : σ × Except PyErr α} (h : swap (m.exec s) = r) : m.exec s = (r.2, r.1) :=
  swap_eq h

/-- what a writer-side method does, state kept on a raise: `g e` is the model's result -/
def execLike (g : Except PyErr (σ × α)) (e : σ) : Except PyErr α × σ :=
  match g with
  | .ok (e', r) => (.ok r, e')
  | .error err => (.error err, e)

@[py_exec] theorem execLike_ok (e : σ) (p : σ × α) : execLike (.ok p) e = (.ok p.2, p.1) := rfl
@[py_exec] theorem execLike_error (e : σ) (err : PyErr) :
    execLike (.error err : Except PyErr (σ × α)) e = (.error err, e) := rfl

@[py_exec] theorem execLike_ite (c : Prop) [Decidable c] (a b : Except PyErr (σ × α)) (e : σ) :
    execLike (if c then a else b) e = if c then execLike a e else execLike b e := by
  split <;> rfl

theorem outcome_execLike (g : Except PyErr (σ × α)) (e : σ) : outcome (execLike g e) = g := by
  rcases g with _ | ⟨_, _⟩ <;> rfl

end Jelly.Translated
