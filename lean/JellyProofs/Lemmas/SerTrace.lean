import JellyModel.Trace
import JellyProofs.Lemmas.SerRows
/-!
# The traced loops of `Trace.lean` versus the untraced loops of `SerGeneric.lean`

The traced loops compute what the untraced loops compute (same frames by size, same final stream, same outcome:
`streamTrace_faithful`), so what the trace records besides, every pull of the input with the number of rows then
pending, is a fact about the model's run. `PullFirst` (the body does not start with a yield and has at most one yield
between pulls) is the invariant behind `oneYieldBetweenPulls`.
`pullsOf`, `yieldsOf`, `oneYieldBetweenPulls` are the definitions used in the statements of C11.
-/
namespace Jelly

def pullsOf (tr : List TraceEv) : List (Nat × Nat) :=
  tr.filterMap fun ev => match ev with | .pull i p => some (i, p) | .yield _ => none

def yieldsOf (tr : List TraceEv) : List Nat :=
  tr.filterMap fun ev => match ev with | .yield n => some n | .pull _ _ => none

/-- DESIGN.md §6 C11 (ii) and (iii). For TripleStream / QuadStream the input is pulled strictly one statement at a
    time (pull indices are 1, 2, 3, …), at most one frame is handed out between two consecutive pulls, and it is
    handed out before the next pull: statement `i` completes a frame ⇒ the frame is out when exactly `i`
    statements have been pulled. -/
def oneYieldBetweenPulls : List TraceEv → Bool
  | .yield _ :: .yield _ :: _ => false
  | _ :: rest => oneYieldBetweenPulls rest
  | [] => true

@[simp] theorem pullsOf_nil : pullsOf [] = [] := rfl
@[simp] theorem yieldsOf_nil : yieldsOf [] = [] := rfl
@[simp] theorem pullsOf_pull (i p : Nat) (tr : List TraceEv) :
    pullsOf (.pull i p :: tr) = (i, p) :: pullsOf tr := rfl
@[simp] theorem pullsOf_yield (n : Nat) (tr : List TraceEv) : pullsOf (.yield n :: tr) = pullsOf tr := rfl
@[simp] theorem yieldsOf_pull (i p : Nat) (tr : List TraceEv) : yieldsOf (.pull i p :: tr) = yieldsOf tr := rfl
@[simp] theorem yieldsOf_yield (n : Nat) (tr : List TraceEv) :
    yieldsOf (.yield n :: tr) = n :: yieldsOf tr := rfl
@[simp] theorem pullsOf_append (a b : List TraceEv) : pullsOf (a ++ b) = pullsOf a ++ pullsOf b :=
  List.filterMap_append
@[simp] theorem yieldsOf_append (a b : List TraceEv) : yieldsOf (a ++ b) = yieldsOf a ++ yieldsOf b :=
  List.filterMap_append

@[simp] theorem pullsOf_yieldOf (fr : Option Frame) : pullsOf (yieldOf fr) = [] := by
  cases fr <;> rfl

@[simp] theorem yieldsOf_yieldOf (fr : Option Frame) :
    yieldsOf (yieldOf fr) = fr.toList.map (·.rows.length) := by
  cases fr <;> rfl

@[simp] theorem pullsOf_map_yield (fs : List Frame) :
    pullsOf (fs.map fun f => TraceEv.yield f.rows.length) = [] := by
  simp [pullsOf, List.filterMap_map, Function.comp_def]

@[simp] theorem yieldsOf_map_yield (fs : List Frame) :
    yieldsOf (fs.map fun f => TraceEv.yield f.rows.length) = fs.map (·.rows.length) := by
  simp [yieldsOf, List.filterMap_map, Function.comp_def]

@[simp] theorem stmtLoopTrace_nil (step : Stream → List Term → Res Stream (Option Frame)) (s : Stream)
    (i : Nat) : stmtLoopTrace step s i [] = ([.pull i s.flow.rows.length], s, none) := rfl

theorem stmtLoopTrace_cons (step : Stream → List Term → Res Stream (Option Frame)) (s : Stream) (i : Nat)
    (t : List Term) (ts : List (List Term)) :
    stmtLoopTrace step s i (t :: ts) =
      match (step s t).2 with
      | .error e => ([.pull i s.flow.rows.length], (step s t).1, some e)
      | .ok fr =>
        (.pull i s.flow.rows.length :: yieldOf fr ++ (stmtLoopTrace step (step s t).1 (i + 1) ts).1,
         (stmtLoopTrace step (step s t).1 (i + 1) ts).2.1,
         (stmtLoopTrace step (step s t).1 (i + 1) ts).2.2) := by
  rw [stmtLoopTrace]
  rcases step s t with ⟨s', e | fr⟩ <;> rfl

theorem stmtLoop_trace (step : Stream → List Term → Res Stream (Option Frame)) (ts : List (List Term))
    (r : Run) (i : Nat) (hr : r.err = none) :
    (stmtLoop step r ts).frames.map (·.rows.length)
      = r.frames.map (·.rows.length) ++ yieldsOf (stmtLoopTrace step r.stream i ts).1 ∧
    (stmtLoop step r ts).stream = (stmtLoopTrace step r.stream i ts).2.1 ∧
    (stmtLoop step r ts).err = (stmtLoopTrace step r.stream i ts).2.2 := by
  fun_induction stmtLoop step r ts generalizing i with
  | case1 r => simp [hr]  -- no statement left
  | case2 r t ts s' e h => simp [stmtLoopTrace, h]  -- the step raised
  | case3 r t ts s' fr h ih => simpa [stmtLoopTrace, h] using ih (i + 1) hr  -- the step returned

theorem stmtLoop_frames_prefix (step : Stream → List Term → Res Stream (Option Frame))
    (ts : List (List Term)) (r : Run) : ∃ fs, (stmtLoop step r ts).frames = r.frames ++ fs := by
  fun_induction stmtLoop step r ts with
  | case1 r => exact ⟨[], by simp⟩  -- no statement left
  | case2 r t ts s' e h => exact ⟨[], by simp⟩  -- the step raised
  | case3 r t ts s' fr h ih => exact ih.elim fun fs hfs => ⟨fr.toList ++ fs, by simp [hfs]⟩  -- the step returned

theorem graphsLoop_trace (ts : List (List Term)) (r : Run) (i : Nat)
    (cur : Option (Term × List (List Term))) (hr : r.err = none) :
    (graphsLoop r cur ts).frames.map (·.rows.length)
      = r.frames.map (·.rows.length) ++ yieldsOf (graphsLoopTrace r.stream i cur ts).1 ∧
    (graphsLoop r cur ts).stream = (graphsLoopTrace r.stream i cur ts).2.1 ∧
    (graphsLoop r cur ts).err = (graphsLoopTrace r.stream i cur ts).2.2 := by
  generalize hs : r.stream = s
  fun_induction graphsLoopTrace s i cur ts generalizing r with
  | case1 s i p => subst hs; simp [graphsLoop, hr, p]  -- end of input, no graph open
  | case2 s i p g ts s' frs err h => subst hs; simp [graphsLoop, h, p]  -- end of input: the open graph is written
  | case3 s i cur st rest p h => subst hs; simp [graphsLoop, h, p]  -- no graph name: AttributeError
  | case4 s i t ts p g h tr s'' e htr ih =>  -- first quad: opens a graph
    subst hs
    simpa [graphsLoop, h, htr, p] using ih r hr rfl
  | case5 s i t ts p g h cg acc heq tr s'' e htr ih =>  -- same graph name: collected
    subst hs
    simpa [graphsLoop, h, heq, htr, p] using ih r hr rfl
  | case6 s i t ts p g h cg acc heq s' frs ys e hg =>  -- new graph name, writing the open graph raised
    subst hs
    simp [graphsLoop, h, heq, hg, p, ys]
  | case7 s i t ts p g h cg acc heq s' frs ys tr s'' e htr hg ih =>  -- new graph name, open graph written
    subst hs
    simpa [graphsLoop, h, heq, hg, htr, p, ys] using ih { stream := s', frames := r.frames ++ frs, err := none } rfl rfl

theorem epilogueTrace_eq (s : Stream) (b : Bool) :
    epilogueTrace s b =
      ((epilogue { stream := s } b).frames.map (fun f => TraceEv.yield f.rows.length),
       (epilogue { stream := s } b).stream) := rfl

theorem stmtLoopTrace_pending {step : Stream → List Term → Res Stream (Option Frame)} (hs : GoodStep step)
    (ts : List (List Term)) (s : Stream) (i : Nat) (hb : s.flow.kind.isBounded = true)
    (hfs : 0 < s.flow.frameSize) (hi : 2 ≤ i → s.flow.rows.length < s.flow.frameSize) :
    ∀ ip ∈ pullsOf (stmtLoopTrace step s i ts).1, 2 ≤ ip.1 → ip.2 < s.flow.frameSize := by
  fun_induction stmtLoopTrace step s i ts with
  | case1 s i => simpa using hi  -- no statement left
  | case2 s i t ts s' e h => simpa using hi  -- the step raised
  | case3 s i t ts s' fr h tr s'' e htr ih =>  -- the step returned
    have hk := hs.keeps s t
    have hp := hs.pending s t hb hfs
    rw [h] at hk hp
    simp only [htr] at ih
    intro ip hip
    simp only [pullsOf_pull, List.cons_append, pullsOf_append, pullsOf_yieldOf, List.nil_append, List.mem_cons] at hip
    rcases hip with rfl | hip
    · exact hi
    · exact hk.frameSize ▸ ih (hk.kind ▸ hb) (hk.frameSize ▸ hfs) (fun _ => hk.frameSize ▸ hp rfl) ip hip

@[simp] theorem oneYield_pull (i p : Nat) (tr : List TraceEv) :
    oneYieldBetweenPulls (.pull i p :: tr) = oneYieldBetweenPulls tr := by
  rw [oneYieldBetweenPulls]
  simp

@[simp] theorem oneYield_yield_yield (a b : Nat) (tr : List TraceEv) :
    oneYieldBetweenPulls (.yield a :: .yield b :: tr) = false := by
  rw [oneYieldBetweenPulls]

@[simp] theorem oneYield_yield_pull (a i p : Nat) (tr : List TraceEv) :
    oneYieldBetweenPulls (.yield a :: .pull i p :: tr) = oneYieldBetweenPulls tr := by
  rw [oneYieldBetweenPulls, oneYield_pull]
  simp

@[simp] theorem oneYield_yield_nil (a : Nat) : oneYieldBetweenPulls [.yield a] = true := by
  rw [oneYieldBetweenPulls, oneYieldBetweenPulls]
  simp

/-- `body` has at most one yield between pulls and does not start with a yield. -/
def PullFirst (body : List TraceEv) : Prop := ∀ k, oneYieldBetweenPulls (.yield k :: body) = true

theorem PullFirst.nil : PullFirst [] := fun k => oneYield_yield_nil k

theorem PullFirst.oneYield {body : List TraceEv} (h : PullFirst body) : oneYieldBetweenPulls body = true := by
  have := h 0
  match body, this with
  | [], _ => rfl
  | .pull i p :: rest, this => simpa using this
  | .yield a :: rest, this => simp at this

theorem PullFirst.cons {body : List TraceEv} (h : PullFirst body) (i p : Nat) (fr : Option Frame) :
    PullFirst (.pull i p :: yieldOf fr ++ body) := by
  intro k
  cases fr with
  | none => simpa [yieldOf] using h.oneYield
  | some f => simpa [yieldOf] using h f.rows.length

theorem stmtLoopTrace_structure (step : Stream → List Term → Res Stream (Option Frame))
    (ts : List (List Term)) (s : Stream) (i : Nat) (hok : (stmtLoopTrace step s i ts).2.2 = none) :
    (pullsOf (stmtLoopTrace step s i ts).1).map (·.1) = List.range' i (ts.length + 1) ∧
    ∃ body p, (stmtLoopTrace step s i ts).1 = body ++ [.pull (i + ts.length) p] ∧ PullFirst body := by
  fun_induction stmtLoopTrace step s i ts with
  | case1 s i => exact ⟨by simp, [], s.flow.rows.length, by simp, .nil⟩  -- no statement left
  | case2 s i t ts s' e h => simp at hok  -- the step raised
  | case3 s i t ts s' fr h tr s'' e htr ih =>  -- the step returned
    simp only [htr] at ih hok
    obtain ⟨h1, body, p, h2, h3⟩ := ih hok
    refine ⟨?_, .pull i s.flow.rows.length :: yieldOf fr ++ body, p, ?_, h3.cons _ _ _⟩
    · simp only [pullsOf_pull, List.cons_append, pullsOf_append, pullsOf_yieldOf, List.nil_append,
        List.map_cons, h1, List.length_cons]
      rw [List.range'_succ (n := ts.length + 1)]
    · simp [h2, Nat.add_assoc, Nat.add_comm 1]

def traceWith (lt : Stream → List TraceEv × Stream × Option PyErr) (fromDataset : Bool) (s : Stream) :
    List TraceEv × Stream × Option PyErr :=
  match lt s.enroll with
  | (tr, s2, some e) => (tr, s2, some e)
  | (tr, s2, none) =>
    let (tr2, s3) := epilogueTrace s2 fromDataset
    (tr ++ tr2, s3, none)

def classLoopTrace (c : StreamClass) (stmts : List (List Term)) (s1 : Stream) :
    List TraceEv × Stream × Option PyErr :=
  match c with
  | .triple => stmtLoopTrace (Stream.triple .runtimeError) s1 1 stmts
  | .quad => stmtLoopTrace (Stream.quad .runtimeError) s1 1 stmts
  | .graph => graphsLoopTrace s1 1 none stmts

theorem classLoopTrace_flat {c : StreamClass} (hc : c ≠ .graph) (stmts : List (List Term)) (s1 : Stream) :
    ∃ step, GoodStep step ∧ classLoopTrace c stmts s1 = stmtLoopTrace step s1 1 stmts := by
  cases c
  · exact ⟨_, Stream.triple_good _, rfl⟩
  · exact ⟨_, Stream.quad_good _, rfl⟩
  · exact absurd rfl hc

theorem streamTrace_eq (s : Stream) (stmts : List (List Term)) :
    streamTrace s stmts = traceWith (classLoopTrace s.cls stmts) (classFromDataset s.cls) s := by
  unfold streamTrace flatTrace graphsTrace
  cases h : s.cls <;> rfl

theorem traceWith_eq (lt : Stream → List TraceEv × Stream × Option PyErr) (b : Bool) (s : Stream) :
    traceWith lt b s =
      match (lt s.enroll).2.2 with
      | some e => ((lt s.enroll).1, (lt s.enroll).2.1, some e)
      | none =>
        ((lt s.enroll).1 ++ (epilogue { stream := (lt s.enroll).2.1 } b).frames.map
            (fun f => TraceEv.yield f.rows.length),
         (epilogue { stream := (lt s.enroll).2.1 } b).stream, none) := by
  unfold traceWith
  rcases lt s.enroll with ⟨tr, s2, _ | e⟩ <;> rfl

theorem traceWith_err (lt : Stream → List TraceEv × Stream × Option PyErr) (b : Bool) (s : Stream) :
    (traceWith lt b s).2.2 = (lt s.enroll).2.2 := by
  rw [traceWith_eq]
  rcases (lt s.enroll).2.2 with _ | e <;> rfl

theorem traceWith_pulls (lt : Stream → List TraceEv × Stream × Option PyErr) (b : Bool) (s : Stream) :
    pullsOf (traceWith lt b s).1 = pullsOf (lt s.enroll).1 := by
  rw [traceWith_eq]
  rcases (lt s.enroll).2.2 with _ | e <;> simp

theorem classLoop_trace (c : StreamClass) (stmts : List (List Term)) (s1 : Stream) :
    (classLoop c { stream := s1 } stmts).frames.map (·.rows.length) = yieldsOf (classLoopTrace c stmts s1).1 ∧
    (classLoop c { stream := s1 } stmts).stream = (classLoopTrace c stmts s1).2.1 ∧
    (classLoop c { stream := s1 } stmts).err = (classLoopTrace c stmts s1).2.2 := by
  cases c
  · simpa [classLoop, classLoopTrace] using
      stmtLoop_trace (Stream.triple .runtimeError) stmts { stream := s1 } 1 rfl
  · simpa [classLoop, classLoopTrace] using
      stmtLoop_trace (Stream.quad .runtimeError) stmts { stream := s1 } 1 rfl
  · simpa [classLoop, classLoopTrace] using graphsLoop_trace stmts { stream := s1 } 1 none rfl

theorem streamTrace_faithful (s : Stream) (stmts : List (List Term)) :
    yieldsOf (streamTrace s stmts).1 = (streamFrames s (.gen stmts)).frames.map (·.rows.length) ∧
    (streamTrace s stmts).2.1 = (streamFrames s (.gen stmts)).stream ∧
    (streamTrace s stmts).2.2 = (streamFrames s (.gen stmts)).err := by
  obtain ⟨h1, h2, h3⟩ := classLoop_trace s.cls stmts s.enroll
  rw [streamTrace_eq, streamFrames_eq, framesWith_eq, traceWith_eq, prologue_gen]
  dsimp only [SerData.stmts]
  generalize classLoopTrace s.cls stmts s.enroll = T at h1 h2 h3 ⊢
  rcases T with ⟨tr, s2, _ | e⟩
  · simp only at h1 h2 h3
    simp only [h3, Option.isSome_none, Bool.false_eq_true, if_false]
    rw [epilogue_eq (classLoop s.cls { stream := s.enroll } stmts), h2]
    simp [h1, h3]
  · simp only at h1 h2 h3
    simp [h1, h2, h3]

end Jelly
