import JellyProofs.Lemmas.TableSim
import JellyProofs.Lemmas.SerRows
import JellyProofs.Lemmas.RowBracket
import JellyProofs.Lemmas.WireWF
import JellyProofs.Lemmas.EncodeInv
import JellyProofs.Lemmas.DecodeFrame
/-!
# Every row the writer pushes can be carried by the wire format

Every row is `Row.wireWF`: the lookup tables stay well-formed LRU dictionaries with at most `MAX_LOOKUP_SIZE`
entries under every *successful* encoder operation (no `stmtFits`/`tripleWF` hypothesis: this is independent of the
reader), hence every id written is `≤ 4096 < 2³²`; quoted triples nest exactly as deep as in the input.
-/
namespace Jelly

/-- A writer table that is a well-formed LRU dictionary of a size the reader supports. -/
def LookupEnc.Small (e : LookupEnc) : Prop := e.lookup.WF ∧ e.lookup.maxSize ≤ MAX_LOOKUP_SIZE

theorem LookupEnc.Small.new (n : Nat) (h : n ≤ MAX_LOOKUP_SIZE) : (LookupEnc.new n).Small :=
  ⟨Lookup.WF.new n, h⟩

theorem entryIndex_small {e e' : LookupEnc} {k : String} {oid : Option Nat} (h : e.Small)
    (he : e.entryIndex k = .ok (e', oid)) :
    e'.Small ∧ ∀ id, oid = some id → id ≤ MAX_LOOKUP_SIZE := by
  by_cases hpos : 0 < e.lookup.maxSize
  · have c := entryIndex_ok_case h.1 hpos he
    obtain ⟨wf', hmax, -, -⟩ := c.basic h.1 hpos
    refine ⟨⟨wf', by rw [hmax]; exact h.2⟩, fun id hid => ?_⟩
    have hle := h.2
    obtain ⟨-, ⟨rfl, -⟩ | ⟨i, rfl, -, -, hi, -⟩⟩ := c.spec h.1
    · cases hid
    · cases hid
      split <;> omega
  · exfalso
    have h0 : e.lookup.maxSize = 0 := by omega
    have hd : e.lookup.data = [] := by
      have := h.1.lenLe
      rw [h0] at this
      exact List.eq_nil_of_length_eq_zero (by omega)
    have hm : e.lookup.moveToEnd k = none := Lookup.moveToEnd_eq_none (by rw [hd]; simp)
    simp [LookupEnc.entryIndex, hm, Lookup.insert, h0] at he

theorem termIndex_small {e e' : LookupEnc} {v : String} {i : Nat} (h : e.Small)
    (he : e.termIndex v = .ok (e', i)) : e'.Small ∧ i ≤ MAX_LOOKUP_SIZE := by
  revert he
  fun_cases LookupEnc.termIndex e v <;> intro he <;> cases he  -- left: the key is found
  rename_i l' hm k' hf
  obtain ⟨i0, hmem, rfl⟩ := Lookup.moveToEnd_some hm
  have wf' := h.1.bump hmem
  have hmax := e.lookup.bump_maxSize (v, i0)
  have hi := (wf'.idx_le_max (List.mem_of_find?_eq_some hf)).2
  rw [hmax] at hi
  exact ⟨⟨wf', hmax ▸ h.2⟩, Nat.le_trans hi h.2⟩

theorem prefixTermIndex_small {e e' : LookupEnc} {v : String} {i : Nat} (h : e.Small)
    (he : e.prefixTermIndex v = .ok (e', i)) : e'.Small ∧ i ≤ MAX_LOOKUP_SIZE := by
  revert he
  fun_cases LookupEnc.prefixTermIndex e v <;> intro he <;> cases he
  · exact ⟨h, Nat.zero_le _⟩  -- table disabled
  · exact ⟨h, Nat.zero_le _⟩  -- empty prefix, none reused yet
  · exact termIndex_small h ‹_›  -- none reused yet: the id
  · exact ⟨(termIndex_small h ‹_›).1, Nat.zero_le _⟩  -- the id last reused: 0
  · exact termIndex_small h ‹_›  -- another id

theorem nameTermIndex_small {e e' : LookupEnc} {v : String} {i : Nat} (h : e.Small)
    (he : e.nameTermIndex v = .ok (e', i)) : e'.Small ∧ i ≤ MAX_LOOKUP_SIZE := by
  revert he
  fun_cases LookupEnc.nameTermIndex e v <;> intro he <;> cases he
  · exact ⟨(termIndex_small h ‹_›).1, Nat.zero_le _⟩  -- the id after the last reused: 0
  · exact termIndex_small h ‹_›  -- another id

theorem datatypeTermIndex_small {e e' : LookupEnc} {v : String} {i : Nat} (h : e.Small)
    (he : e.datatypeTermIndex v = .ok (e', i)) : e'.Small ∧ i ≤ MAX_LOOKUP_SIZE := by
  unfold LookupEnc.datatypeTermIndex at he
  split at he
  · simp only [Except.ok.injEq, Prod.mk.injEq] at he
    obtain ⟨rfl, rfl⟩ := he
    exact ⟨h, Nat.zero_le _⟩
  · exact termIndex_small h he

structure TermEnc.Small (te : TermEnc) : Prop where
  names : te.names.Small
  prefixes : te.prefixes.Small
  datatypes : te.datatypes.Small

theorem LookupEnc.Small.startRow {e : LookupEnc} (h : e.Small) : e.startRow.Small :=
  ⟨h.1.congr rfl rfl rfl, h.2⟩

theorem LookupEnc.Small.unpin {e : LookupEnc} (h : e.Small) : e.unpin.Small :=
  ⟨h.1.congr rfl rfl rfl, h.2⟩

theorem TermEnc.Small.endRow {te : TermEnc} (h : te.Small) : te.endRow.Small :=
  ⟨h.names.unpin, h.prefixes.unpin, h.datatypes.unpin⟩

theorem TermEnc.Small.startRow {te : TermEnc} (h : te.Small) : te.startRow.Small :=
  ⟨h.names.startRow, h.prefixes.startRow, h.datatypes.startRow⟩

/-- A lookup entry with an id the wire can carry: the only rows the term encoders write. -/
def Row.entryWF : Row → Bool
  | .nameEntry id _ | .prefixEntry id _ | .dtEntry id _ => id < U32
  | _ => false

theorem wireWF_of_le_max {id : Nat} (h : id ≤ MAX_LOOKUP_SIZE) : id < U32 := by
  simp only [MAX_LOOKUP_SIZE] at h
  simp only [U32]
  omega

theorem entryRows_wf {r : Row} {oid : Option Nat} {k : String} (hid : ∀ id, oid = some id → id ≤ MAX_LOOKUP_SIZE)
    (h : r ∈ nameEntryRows oid k ∨ r ∈ prefixEntryRows oid k ∨ r ∈ dtEntryRows oid k) : r.entryWF = true := by
  obtain ⟨id, ho, h⟩ := mem_entryRows h
  have := wireWF_of_le_max (hid id ho)
  rcases h with rfl | rfl | rfl <;> simpa [Row.entryWF] using this

theorem iriIndices_small {te te' : TermEnc} {iri : String} {rows : List Row} {p n : Nat}
    (hs : te.Small) (h : te.iriIndices iri = (te', .ok (rows, p, n))) :
    te'.Small ∧ (∀ r ∈ rows, r.entryWF = true) ∧ p ≤ MAX_LOOKUP_SIZE ∧ n ≤ MAX_LOOKUP_SIZE := by
  rcases TermEnc.iriIndices_ok_inv h with ⟨_, rfl, ne1, noid, ne2, hne, hnt, rfl, rfl⟩ |
    ⟨_, pe1, poid, ne1, noid, pe2, ne2, hpe, hne, hpt, hnt, rfl, rfl⟩
  · obtain ⟨n1, nid⟩ := entryIndex_small hs.names hne
    obtain ⟨n2, hn⟩ := nameTermIndex_small n1 hnt
    exact ⟨⟨n2, hs.prefixes, hs.datatypes⟩, fun r hr => entryRows_wf nid (.inl hr), Nat.zero_le _, hn⟩
  · obtain ⟨p1, pid⟩ := entryIndex_small hs.prefixes hpe
    obtain ⟨n1, nid⟩ := entryIndex_small hs.names hne
    obtain ⟨p2, hp⟩ := prefixTermIndex_small p1 hpt
    obtain ⟨n2, hn⟩ := nameTermIndex_small n1 hnt
    refine ⟨⟨n2, p2, hs.datatypes⟩, fun r hr => ?_, hp, hn⟩
    rcases List.mem_append.1 hr with hr | hr
    · exact entryRows_wf pid (.inr (.inl hr))
    · exact entryRows_wf nid (.inl hr)

theorem literal_small {te te' : TermEnc} {lang dt : Option String} {rows : List Row} {k : WLitKind}
    (hs : te.Small) (h : te.literal lang dt = (te', .ok (rows, k))) :
    te'.Small ∧ (∀ r ∈ rows, r.entryWF = true) ∧ ∀ id, k = .dt id → id ≤ MAX_LOOKUP_SIZE := by
  have hlk : ∀ id, litLangKind lang ≠ .dt id := by
    intro id hk
    unfold litLangKind at hk
    split at hk
    · split at hk <;> cases hk
    · cases hk
  rcases TermEnc.literal_ok_inv h with ⟨_, rfl, rfl, rfl⟩ |
    ⟨d, de1, doid, de2, did, -, -, -, hde, hdt, rfl, rfl, rfl⟩
  · exact ⟨hs, by simp, fun id hid => absurd hid (hlk id)⟩
  · obtain ⟨d1, hdoid⟩ := entryIndex_small hs.datatypes hde
    obtain ⟨d2, hdid⟩ := datatypeTermIndex_small d1 hdt
    refine ⟨⟨hs.names, hs.prefixes, d2⟩, fun r hr => entryRows_wf hdoid (.inr (.inr hr)), fun id hid => ?_⟩
    split at hid
    · cases hid
      exact hdid
    · exact absurd hid (hlk id)

/-- Nesting depth of quoted triples in an input term. -/
def Term.depth : Term → Nat
  | .quoted s p o => 1 + max s.depth (max p.depth o.depth)
  | _ => 0

theorem literal_wfSpo (lex : String) (k : WLitKind) (h : ∀ id, k = .dt id → id ≤ MAX_LOOKUP_SIZE) :
    (WTerm.literal lex k).wfSpo = true := by
  cases k with
  | plain => rfl
  | lang l => rfl
  | dt id => simpa [WTerm.wfSpo] using wireWF_of_le_max (h id rfl)

theorem spo_small (t : Term) : ∀ {te te' : TermEnc} {rows : List Row} {w : WTerm}, te.Small →
    te.spo t = (te', .ok (rows, w)) →
    te'.Small ∧ (∀ r ∈ rows, r.entryWF = true) ∧ w.wfSpo = true ∧ w.depth = t.depth := by
  induction t with
  | iri s =>
    intro te te' rows w hs h
    obtain ⟨p, n, hi, rfl⟩ := TermEnc.spo_ok_inv h
    obtain ⟨a, b, c, d⟩ := iriIndices_small hs hi
    exact ⟨a, b, by simp [WTerm.wfSpo, wireWF_of_le_max c, wireWF_of_le_max d], rfl⟩
  | lit lex lang dt =>
    intro te te' rows w hs h
    obtain ⟨k, hl, rfl⟩ := TermEnc.spo_ok_inv h
    obtain ⟨a, b, c⟩ := literal_small hs hl
    exact ⟨a, b, literal_wfSpo _ _ c, rfl⟩
  | bnode b =>
    intro te te' rows w hs h
    obtain ⟨rfl, rfl, rfl⟩ := TermEnc.spo_ok_inv h
    exact ⟨hs, by simp, rfl, rfl⟩
  | quoted s p o ihs ihp iho =>
    intro te te' rows w hs h
    obtain ⟨te1, te2, r1, r2, r3, ws, wp, wo, h1, h2, h3, rfl, rfl⟩ := TermEnc.spo_ok_inv h
    obtain ⟨a1, b1, c1, d1⟩ := ihs hs h1
    obtain ⟨a2, b2, c2, d2⟩ := ihp a1 h2
    obtain ⟨a3, b3, c3, d3⟩ := iho a2 h3
    refine ⟨a3, fun r hr => ?_, ?_, ?_⟩
    · simp only [List.mem_append] at hr
      rcases hr with (hr | hr) | hr
      · exact b1 r hr
      · exact b2 r hr
      · exact b3 r hr
    · simp [WTerm.wfSpo, WTerm.wfOptSpo, c1, c2, c3]
    · show 1 + max ws.depth (max wp.depth wo.depth) = 1 + max s.depth (max p.depth o.depth)
      rw [d1, d2, d3]
  | defaultGraph => exact fun _ h => (TermEnc.spo_ok_inv h).elim
  | unsupported => exact fun _ h => (TermEnc.spo_ok_inv h).elim

theorem wfGraph_of_wfSpo {w : WTerm} (h : w.wfSpo = true) (hd : w.depth = 0) : w.wfGraph = true := by
  cases w <;> first | exact h | rfl | simp [WTerm.depth] at hd

theorem graph_small {t : Term} {te te' : TermEnc} {rows : List Row} {w : WTerm} (hs : te.Small)
    (h : te.graph t = (te', .ok (rows, w))) :
    te'.Small ∧ (∀ r ∈ rows, r.entryWF = true) ∧ w.wfGraph = true := by
  cases t with
  -- in graph position an IRI, a literal, a blank node are encoded as in subject/predicate/object position
  | iri s =>
    obtain ⟨a, b, c, d⟩ := spo_small (.iri s) hs h
    exact ⟨a, b, wfGraph_of_wfSpo c d⟩
  | lit lex lang dt =>
    obtain ⟨a, b, c, d⟩ := spo_small (.lit lex lang dt) hs h
    exact ⟨a, b, wfGraph_of_wfSpo c d⟩
  | bnode x =>
    obtain ⟨a, b, c, d⟩ := spo_small (.bnode x) hs h
    exact ⟨a, b, wfGraph_of_wfSpo c d⟩
  | defaultGraph =>
    obtain ⟨rfl, rfl, rfl⟩ := TermEnc.graph_ok_inv h
    exact ⟨hs, by simp, rfl⟩
  | quoted s p o => exact (TermEnc.graph_ok_inv h).elim
  | unsupported => exact (TermEnc.graph_ok_inv h).elim

theorem encSlot_spo_small {te te' : TermEnc} {prev prev' : Option Term} {t : Term} {rows : List Row}
    {w : Option WTerm} (hs : te.Small)
    (h : encSlot TermEnc.spo te prev t = (te', prev', .ok (rows, w))) :
    te'.Small ∧ (∀ r ∈ rows, r.entryWF = true) ∧ WTerm.wfOptSpo w = true ∧
      WTerm.depth.optDepth w ≤ t.depth := by
  rcases encSlot_inv h with ⟨_, rfl, rfl, rfl⟩ | ⟨_, w', rfl, he⟩
  · exact ⟨hs, by simp, rfl, Nat.zero_le _⟩
  · obtain ⟨a, b, c, d⟩ := spo_small t hs he
    exact ⟨a, b, by simpa [WTerm.wfOptSpo] using c, by simp [WTerm.depth.optDepth, d]⟩

theorem encSlot_graph_small {te te' : TermEnc} {prev prev' : Option Term} {t : Term} {rows : List Row}
    {w : Option WTerm} (hs : te.Small)
    (h : encSlot TermEnc.graph te prev t = (te', prev', .ok (rows, w))) :
    te'.Small ∧ (∀ r ∈ rows, r.entryWF = true) ∧ optWfGraph w = true := by
  rcases encSlot_inv h with ⟨_, rfl, rfl, rfl⟩ | ⟨_, w', rfl, he⟩
  · exact ⟨hs, by simp, rfl⟩
  · obtain ⟨a, b, c⟩ := graph_small hs he
    exact ⟨a, b, by simpa [optWfGraph] using c⟩

/-- Input statements whose quoted triples nest shallowly enough for the protobuf recursion limit. The `+ 2` is that of
    `Row.wireWF` (`Lemmas/WireWF.lean`): the frame and the statement message each use one level of `depthLimit`. -/
def stmtShallow (t : List Term) : Bool := t.all fun x => x.depth + 2 < depthLimit

theorem depth_le_of_stmtShallow {t : List Term} (h : stmtShallow t = true) :
    ∀ x ∈ t, x.depth ≤ depthLimit - 3 := by
  intro x hx
  have := (List.all_eq_true.1 h) x hx
  simp only [decide_eq_true_eq] at this
  omega

def Row.wfBelow (n : Nat) (r : Row) : Prop :=
  r.wireWF = true ∧
    match r with
    | .triple s p o | .quad s p o _ =>
      WTerm.depth.optDepth s ≤ n ∧ WTerm.depth.optDepth p ≤ n ∧ WTerm.depth.optDepth o ≤ n
    | _ => True

theorem Row.wfBelow_of_entryWF {r : Row} (n : Nat) (h : r.entryWF = true) : r.wfBelow n := by
  cases r <;> first | exact ⟨h, trivial⟩ | cases h

theorem triple_row_wfBelow {n : Nat} {ws wp wo : Option WTerm} (hn : n + 2 < depthLimit)
    (h1 : WTerm.wfOptSpo ws = true) (h2 : WTerm.wfOptSpo wp = true) (h3 : WTerm.wfOptSpo wo = true)
    (d1 : WTerm.depth.optDepth ws ≤ n) (d2 : WTerm.depth.optDepth wp ≤ n)
    (d3 : WTerm.depth.optDepth wo ≤ n) : (Row.triple ws wp wo).wfBelow n := by
  refine ⟨?_, d1, d2, d3⟩
  simp only [Row.wireWF, h1, h2, h3, Bool.and_self, Bool.true_and, Bool.and_eq_true, decide_eq_true_eq]
  omega

theorem quad_row_wfBelow {n : Nat} {ws wp wo wg : Option WTerm} (hn : n + 2 < depthLimit)
    (h1 : WTerm.wfOptSpo ws = true) (h2 : WTerm.wfOptSpo wp = true) (h3 : WTerm.wfOptSpo wo = true)
    (h4 : optWfGraph wg = true)
    (d1 : WTerm.depth.optDepth ws ≤ n) (d2 : WTerm.depth.optDepth wp ≤ n)
    (d3 : WTerm.depth.optDepth wo ≤ n) : (Row.quad ws wp wo wg).wfBelow n := by
  refine ⟨?_, d1, d2, d3⟩
  simp only [Row.wireWF, h1, h2, h3, h4, Bool.and_self, Bool.true_and, Bool.and_eq_true, decide_eq_true_eq]
  omega

theorem SpoSlots.small {te te' : TermEnc} {rep rep' : Repeated} {s p o : Term} {rows : List Row}
    {ws wp wo : Option WTerm} (h : SpoSlots te rep s p o te' rep' rows ws wp wo) (hs : te.Small) :
    te'.Small ∧ (∀ r ∈ rows, r.entryWF = true) ∧
      (WTerm.wfOptSpo ws = true ∧ WTerm.wfOptSpo wp = true ∧ WTerm.wfOptSpo wo = true) ∧
      WTerm.depth.optDepth ws ≤ s.depth ∧ WTerm.depth.optDepth wp ≤ p.depth ∧
      WTerm.depth.optDepth wo ≤ o.depth := by
  obtain ⟨te1, rs, r1, te2, rp, r2, ro, r3, h1, h2, h3, -, rfl⟩ := h
  obtain ⟨s1, e1, w1, d1⟩ := encSlot_spo_small hs h1
  obtain ⟨s2, e2, w2, d2⟩ := encSlot_spo_small s1 h2
  obtain ⟨s3, e3, w3, d3⟩ := encSlot_spo_small s2 h3
  refine ⟨s3, fun r hr => ?_, ⟨w1, w2, w3⟩, d1, d2, d3⟩
  simp only [List.mem_append] at hr
  rcases hr with (hr | hr) | hr
  · exact e1 r hr
  · exact e2 r hr
  · exact e3 r hr

theorem encodeTriple_small (exc : PyErr) (st st' : EncState) (terms : List Term) (rows : List Row)
    {n : Nat} (hn : n + 2 < depthLimit) (hs : st.te.Small) (hd : ∀ x ∈ terms, x.depth ≤ n)
    (h : encodeTriple exc st terms = (st', .ok rows)) :
    st'.te.Small ∧ ∀ r ∈ rows, r.wfBelow n := by
  obtain ⟨st1, hb, rfl⟩ := encodeTriple_ok_inv h
  obtain ⟨a, b, c, rest, te3, rep3, r, ws, wp, wo, rfl, hsl, rfl, rfl⟩ := encodeTripleBody_ok_inv hb
  obtain ⟨s3, e, ⟨w1, w2, w3⟩, d1, d2, d3⟩ := hsl.small hs.startRow
  refine ⟨s3.endRow, fun r hr => ?_⟩
  rcases List.mem_append.1 hr with hr | hr
  · exact Row.wfBelow_of_entryWF n (e r hr)
  · rw [List.mem_singleton.1 hr]
    exact triple_row_wfBelow hn w1 w2 w3 (Nat.le_trans d1 (hd a (by simp))) (Nat.le_trans d2 (hd b (by simp)))
      (Nat.le_trans d3 (hd c (by simp)))

theorem encodeQuad_small (exc : PyErr) (st st' : EncState) (terms : List Term) (rows : List Row)
    {n : Nat} (hn : n + 2 < depthLimit) (hs : st.te.Small) (hd : ∀ x ∈ terms, x.depth ≤ n)
    (h : encodeQuad exc st terms = (st', .ok rows)) :
    st'.te.Small ∧ ∀ r ∈ rows, r.wfBelow n := by
  obtain ⟨st1, hb, rfl⟩ := encodeQuad_ok_inv h
  obtain ⟨a, b, c, g, rest, te3, rep3, r, ws, wp, wo, te4, rg, r4, wg, rfl, hsl, h4, rfl, rfl⟩ :=
    encodeQuadBody_ok_inv hb
  obtain ⟨s3, e, ⟨w1, w2, w3⟩, d1, d2, d3⟩ := hsl.small hs.startRow
  obtain ⟨s4, e4, w4⟩ := encSlot_graph_small s3 h4
  refine ⟨s4.endRow, fun r hr => ?_⟩
  simp only [List.mem_append, List.mem_singleton] at hr
  rcases hr with (hr | hr) | rfl
  · exact Row.wfBelow_of_entryWF n (e r hr)
  · exact Row.wfBelow_of_entryWF n (e4 r hr)
  · exact quad_row_wfBelow hn w1 w2 w3 w4 (Nat.le_trans d1 (hd a (by simp))) (Nat.le_trans d2 (hd b (by simp)))
      (Nat.le_trans d3 (hd c (by simp)))

theorem small_sound_graphStart (n : Nat) (g : Term) :
    EncOp.Sound (·.te.Small) (Row.wfBelow n) (graphStartOp g) := by
  intro enc enc' rows hi h
  unfold graphStartOp at h
  cases hbk : enc.te.broken with
  | true => simp [TermEnc.beginRow_broken hbk] at h
  | false =>
    rw [TermEnc.beginRow_ok hbk] at h
    dsimp only at h
    rcases hg : enc.te.startRow.graph g with ⟨te', e | ⟨rows0, w⟩⟩
    · simp [hg] at h
    · simp only [hg, Prod.mk.injEq, Except.ok.injEq] at h
      obtain ⟨rfl, rfl⟩ := h
      obtain ⟨a, b, c⟩ := graph_small hi.startRow hg
      refine ⟨a.endRow, fun x hx => ?_⟩
      rcases List.mem_append.1 hx with hx | hx
      · exact Row.wfBelow_of_entryWF n (b x hx)
      · simp only [List.mem_singleton] at hx
        subst hx
        exact ⟨by simpa [Row.wireWF, optWfGraph] using c, trivial⟩

/-- Every row of every frame of a run over plain statements is `wireWF`, its statement terms nest no
    deeper than those of the input, and no frame has metadata: the tables stay small under every
    successful encoder operation, so every id written is `≤ 4096`. -/
theorem streamFrames_wfBelow {n : Nat} (hn : n + 2 < depthLimit) (s : Stream) (stmts : List (List Term))
    (hsm : s.enc.te.Small) (hs : ∀ x ∈ s.flow.rows, x.wfBelow n) (ho : s.optionsRow.wireWF = true)
    (hd : ∀ t ∈ stmts, ∀ x ∈ t, x.depth ≤ n) :
    ∀ f ∈ (streamFrames s (.gen stmts)).frames, (∀ x ∈ f.rows, x.wfBelow n) ∧ f.metadata = [] := by
  have hall := streamFrames_rows_all (I := (·.te.Small)) (R := Row.wfBelow n) (fun t => ∀ x ∈ t, x.depth ≤ n)
    (small_sound_graphStart n) ⟨rfl, trivial⟩
    (fun t h enc enc' rows hi he => encodeTriple_small _ enc enc' t rows hn hi h he)
    (fun t h enc enc' rows hi he => encodeQuad_small _ enc enc' t rows hn hi h he)
    (fun t h x hx => h x (List.mem_of_mem_take hx)) s (.gen stmts) rfl hd hsm hs ⟨ho, trivial⟩
  exact fun f hf => ⟨fun x hx => hall x (List.mem_append_left _ (List.mem_flatMap.2 ⟨f, hf, hx⟩)),
    (streamFrames_flat s _).noMeta (fun _ h => nomatch h) f hf⟩

theorem Row.noQuoted_of_wfBelow {r : Row} (h : r.wfBelow 0) : r.noQuoted = true := by
  have hd : ∀ w : Option WTerm, WTerm.depth.optDepth w ≤ 0 → optNoQuoted w = true := by
    intro w hw
    rcases w with _ | (_ | _ | _ | _ | _)
    all_goals first | rfl | (simp [WTerm.depth.optDepth, WTerm.depth] at hw)
  have hg : ∀ w : Option WTerm, optWfGraph w = true → optNoQuoted w = true := by
    intro w hw
    rcases w with _ | (_ | _ | _ | _ | _)
    all_goals first | rfl | cases hw
  obtain ⟨hw, hb⟩ := h
  cases r with
  | triple s p o => simp [Row.noQuoted, hd s hb.1, hd p hb.2.1, hd o hb.2.2]
  | quad s p o g =>
    simp only [Row.wireWF, Bool.and_eq_true] at hw
    obtain ⟨⟨⟨⟨-, hwg⟩, -⟩, -⟩, -⟩ := hw
    simp [Row.noQuoted, hd s hb.1, hd p hb.2.1, hd o hb.2.2, hg g hwg]
  | graphStart g => exact hg g hw
  | _ => rfl

theorem validLogical_lt_u32 (n : Nat) (h : validLogical n = true) : n < 2 ^ 32 := by
  simp only [validLogical, Bool.or_eq_true, decide_eq_true_eq, beq_iff_eq] at h
  omega

theorem Stream.new_small {cls : StreamClass} {o : SerOptions} {s : Stream} (hs : Stream.new cls o = .ok s)
    (hp : o.preset.maxNames ≤ MAX_LOOKUP_SIZE ∧ o.preset.maxPrefixes ≤ MAX_LOOKUP_SIZE ∧
      o.preset.maxDatatypes ≤ MAX_LOOKUP_SIZE) (hl : s.logicalType < 2 ^ 32) :
    s.enc.te.Small ∧ s.flow.rows = [] ∧ s.optionsRow.wireWF = true := by
  obtain ⟨-, hcls, hopts, henc, hrows, -, -⟩ := Stream.new_spec hs
  refine ⟨?_, hrows, ?_⟩
  · rw [henc]
    exact ⟨.new _ hp.1, .new _ hp.2.1, .new _ hp.2.2⟩
  · have h1 := wireWF_of_le_max hp.1
    have h2 := wireWF_of_le_max hp.2.1
    have h3 := wireWF_of_le_max hp.2.2
    have h4 : cls.physical < U32 := by cases cls <;> simp [StreamClass.physical, U32]
    have h5 : o.params.version < U32 := by
      simp only [Params.version, U32]; split <;> omega
    have h6 : s.logicalType < U32 := hl
    simp [Row.wireWF, Stream.optionsRow, Options.wf, hcls, hopts, h1, h2, h3, h4, h5, h6]

end Jelly
