import JellyModel.Encode
/-!
# Basic facts on the row-local `pinned` bookkeeping of the writer table

`pinned` never influences `data` / `maxSize` / `evicting`; it only decides whether `insert` refuses an
eviction.
-/
namespace Jelly

@[simp] theorem Lookup.pin_data (l : Lookup) (k : String) : (l.pin k).data = l.data := by
  unfold Lookup.pin; split <;> rfl

@[simp] theorem Lookup.pin_maxSize (l : Lookup) (k : String) : (l.pin k).maxSize = l.maxSize := by
  unfold Lookup.pin; split <;> rfl

@[simp] theorem Lookup.pin_evicting (l : Lookup) (k : String) : (l.pin k).evicting = l.evicting := by
  unfold Lookup.pin; split <;> rfl

theorem Lookup.pin_pinned (l : Lookup) (k : String) : (l.pin k).pinned = l.pinned.map (k :: ·) := by
  unfold Lookup.pin; split <;> simp_all

@[simp] theorem Lookup.pin_find? (l : Lookup) (k k' : String) : (l.pin k).find? k' = l.find? k' := by
  unfold Lookup.find?; rw [Lookup.pin_data]

theorem Lookup.pin_of_none {l : Lookup} (h : l.pinned = none) (k : String) : l.pin k = l := by
  unfold Lookup.pin; rw [h]

theorem Lookup.isPinned_of_none {l : Lookup} (h : l.pinned = none) (k : String) : l.isPinned k = false := by
  unfold Lookup.isPinned; rw [h]

theorem Lookup.isPinned_some {l : Lookup} {ps : List String} (h : l.pinned = some ps) (k : String) :
    l.isPinned k = ps.contains k := by
  unfold Lookup.isPinned; rw [h]

theorem Lookup.moveToEnd_pinned {l l' : Lookup} {k : String} (h : l.moveToEnd k = some l') :
    l'.pinned = l.pinned.map (k :: ·) := by
  unfold Lookup.moveToEnd at h
  split at h
  · simp at h
  · injection h with h; subst h
    rw [Lookup.pin_pinned]

theorem Lookup.insert_pinned {l l' : Lookup} {k : String} {i : Nat} (h : l.insert k = .ok (l', i)) :
    l'.pinned = l.pinned.map (k :: ·) := by
  revert h
  fun_cases Lookup.insert l k <;> intro h
  -- the three refusals (disabled, nothing to evict, victim pinned); victim replaced; appended
  all_goals first | (cases h; done) | (rw [← (Prod.mk.inj (Except.ok.inj h)).1]; exact Lookup.pin_pinned _ _)

/-- Forgetting the pins: the raw table nobody called `TermEncoder.start_row` on. -/
def Lookup.unpin (l : Lookup) : Lookup := { l with pinned := none }

theorem Lookup.pin_unpin (l : Lookup) (k : String) : l.unpin.pin k = l.unpin := rfl

end Jelly
