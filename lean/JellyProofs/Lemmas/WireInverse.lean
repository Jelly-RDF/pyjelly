import JellyModel.Wire
import JellyModel.WireDecode
import JellyModel.Parse
import JellyProofs.Lemmas.WireBytes
import JellyProofs.Lemmas.WireWF
import JellyProofs.Lemmas.ExceptLemmas
/-!
# The wire parser inverts the wire encoder — helper lemmas

A message body is a concatenation of canonically encoded fields (`encField`), and such a concatenation splits back
into exactly those fields (`fieldsOf_flatMap`, from `splitFields_encField`: one field read back). `Canon b fs` says
this of the bytes `b`; `Slot step b fs a a'` adds that folding the decoder's `step` over `fs` takes the state `a` to
`a'`. Both are closed under `++`, so the round trip of a message is an append of slots, one per field of the message:
an optional scalar (`Slot.uint`, `Slot.bool`, `Slot.str`: the step sets a component, and a value that is left out is
the one the initial state holds), a oneof (`spoSlot`, `stmtGraphSlot`) or a single field (`Slot.field`).
`Slot.decodes` turns the slot of a whole body into `dec*Into init (enc* x) = .ok x` (`*_enc`), for values satisfying
the Boolean conditions of `WireWF.lean`. It is there that the decoder's fold meets the slot's `step`: for the small
messages `step` is the model's own lambda, found by unification; `stmtStep`, `rowStep`, `frameStep` repeat the lambda of
`WireDecode.lean` by hand and have to be changed with it (with the lambda itself in their statements the proofs about
rows cost several times as much to check). Quoted triples go by induction on the nesting budget (`SpoOk d t`, `RecOk`,
`recOk_all`).

The bound `< 2 ^ 64` on the length of the bytes (a length prefix is read back modulo 2⁶⁴) is asked for once, in
`Slot.fold`; `Slot.append` and `Slot.field` hand it down to the parts and the payloads.
-/
namespace Jelly

theorem byteArray_toList_loop (bs : ByteArray) (i : Nat) (r : List UInt8) :
    ByteArray.toList.loop bs i r = r.reverse ++ bs.data.toList.drop i := by
  have hsz : bs.size = bs.data.toList.length := by
    cases bs; simp [ByteArray.size]
  fun_induction ByteArray.toList.loop bs i r with
  | case1 i r h ih =>  -- one more byte
    rw [ih]
    have hi : i < bs.data.toList.length := by omega
    rw [List.drop_eq_getElem_cons hi]
    have : bs.get! i = bs.data.toList[i] := by
      cases bs with | mk d =>
      simp only [ByteArray.get!]
      simp at hi
      simp [hi]
    simp [this]
  | case2 i r h =>  -- past the end
    have hi : bs.data.toList.length ≤ i := by omega
    simp [List.drop_eq_nil_of_le hi]

theorem byteArray_toList (bs : ByteArray) : bs.toList = bs.data.toList := by
  simp [ByteArray.toList, byteArray_toList_loop]

theorem decStr_utf8 (s : String) : decStr (utf8 s) = .ok s := by
  have e : ByteArray.mk (utf8 s).toArray = s.toByteArray := by
    simp [utf8, byteArray_toList]
  unfold decStr
  rw [e]
  simp [String.fromUTF8?, s.isValidUTF8]
  rfl

theorem utf8_eq_nil_iff (s : String) : utf8 s = [] ↔ s = "" := by
  have h0 : utf8 "" = [] := by simp [utf8, byteArray_toList]
  constructor
  · intro h
    have := decStr_utf8 s
    rw [h, ← h0, decStr_utf8] at this
    cases this; rfl
  · intro h; subst h; exact h0

theorem pow_split (acc n shift : Nat) :
    acc + n % 128 * 2 ^ shift + n / 128 * 2 ^ (shift + 7) = acc + n * 2 ^ shift := by
  have h : n = 128 * (n / 128) + n % 128 := (Nat.div_add_mod n 128).symm
  have e : 2 ^ (shift + 7) = 2 ^ shift * 128 := by rw [Nat.pow_add]
  rw [e]
  generalize 2 ^ shift = P
  generalize n / 128 = q at h ⊢
  generalize n % 128 = r at h ⊢
  subst h
  have : q * (P * 128) = 128 * q * P := by
    rw [Nat.mul_comm P 128, ← Nat.mul_assoc, Nat.mul_comm q 128]
  rw [this, Nat.add_mul]
  omega

/-- Along the recursion of `varint`: the last byte needs no more fuel, a continuation byte hands `n / 128` to the
    reader with one unit of fuel less. -/
theorem readVarintAux_varint (n : Nat) : ∀ (fuel shift acc : Nat) (rest : Bytes), n < 128 ^ (fuel + 1) →
    readVarintAux (fuel + 1) shift acc (varint n ++ rest) = some (acc + n * 2 ^ shift, rest) := by
  fun_induction varint n with
  | case1 n hn =>  -- one byte
    intro fuel shift acc rest _
    simp only [List.cons_append, List.nil_append, readVarintAux]
    rw [toUInt8_toNat_lt n (Nat.lt_trans hn (by decide)), if_pos hn, Nat.mod_eq_of_lt hn]
  | case2 n hn ih =>  -- a continuation byte, then the rest
    intro fuel shift acc rest h
    obtain _ | fuel := fuel
    · exact absurd h hn
    simp only [List.cons_append, readVarintAux]
    rw [toUInt8_toNat_lt _ (Nat.add_lt_add_right (Nat.mod_lt n (by decide)) 128),
      if_neg (Nat.not_lt.2 (Nat.le_add_left 128 _)), Nat.add_mod_right, Nat.mod_mod,
      ih fuel (shift + 7) _ rest (Nat.div_lt_of_lt_mul (by rw [Nat.mul_comm]; exact h)), pow_split]

theorem readVarint_varint (n : Nat) (h : n < 2 ^ 64) (rest : Bytes) :
    readVarint (varint n ++ rest) = some (n, rest) := by
  unfold readVarint
  rw [readVarintAux_varint n 9 0 0 rest (Nat.lt_of_lt_of_le h (by decide))]
  simp [Nat.mod_eq_of_lt h]

/-- Where the in-memory reader succeeds, the stream reader returns the same value (mod 2⁶⁴) and the same rest.
    `shift + 7 * fuel ≤ 70` holds at the top (fuel 10, shift 0) and along the recursion; it is what keeps the stream
    reader out of its `shift + 7 ≥ 64` branch while a byte is still to come. -/
theorem readStreamVarint_of_aux (fuel : Nat) : ∀ (shift acc : Nat) (b : Bytes) (v : Nat) (r : Bytes),
    shift + 7 * fuel ≤ 70 → readVarintAux fuel shift acc b = some (v, r) →
    readStreamVarint fuel shift acc b = .ok (some (v % 2 ^ 64, r)) := by
  induction fuel with
  | zero => intro _ _ b _ _ _ h; cases b <;> cases h
  | succ fuel ih =>
    intro shift acc b v r hs h
    cases b with
    | nil => cases h
    | cons x xs =>
      simp only [readVarintAux, readStreamVarint] at h ⊢
      split
      · rename_i hx
        rw [if_pos hx] at h
        cases h
        rfl
      · rename_i hx
        rw [if_neg hx] at h
        cases fuel with
        | zero => cases xs <;> cases h
        | succ fuel =>
          rw [if_neg (by omega)]
          exact ih _ _ _ _ _ (by omega) h

/-- Canonical encoding of one field (only the two wire types the writer uses). -/
def encField : Field → Bytes
  | (n, .varint v) => tag n 0 ++ varint v
  | (n, .len p) => lenDelim n p
  | _ => []

/-- A field as the canonical encoder writes it and `splitFields` reads it back: a field number that fits a tag, a varint
    below 2⁶⁴; fixed-width and group fields are never written. -/
def Field.numOk : Field → Prop
  | (n, .varint v) => 1 ≤ n ∧ n < 2 ^ 29 ∧ v < 2 ^ 64
  | (n, .len _) => 1 ≤ n ∧ n < 2 ^ 29
  | _ => False

theorem encField_length_pos (f : Field) (h : f.numOk) : 0 < (encField f).length := by
  obtain ⟨n, v⟩ := f
  cases v with
  | varint v =>
    have := varint_length_pos (n * 8 + 0)
    simp only [encField, tag, List.length_append]; omega
  | len p =>
    have := varint_length_pos (n * 8 + 2)
    simp only [encField, lenDelim, tag, List.length_append]; omega
  | fixed64 => exact h.elim
  | fixed32 => exact h.elim

theorem flatMap_encField_length (fs : List Field) (h : ∀ f ∈ fs, f.numOk) :
    fs.length ≤ (fs.flatMap encField).length := by
  induction fs with
  | nil => exact Nat.le_refl _
  | cons f fs ih =>
    have h1 := encField_length_pos f (h f List.mem_cons_self)
    have h2 := ih (fun g hg => h g (List.mem_cons_of_mem _ hg))
    simp only [List.flatMap_cons, List.length_append, List.length_cons]
    omega

/-- The tag `n * 8 + w` of a field number below 2²⁹ and a wire type: what `splitFields` computes from it. -/
theorem tag_arith {n w : Nat} (h1 : 1 ≤ n) (h2 : n < 2 ^ 29) (hw : w < 8) :
    n * 8 + w < 2 ^ 64 ∧ (n * 8 + w) / 8 = n ∧ (n * 8 + w) % 8 = w ∧
      ((n == 0 || decide (n * 8 + w ≥ 2 ^ 32)) = false) := by
  have hlt : n * 8 + w < 2 ^ 32 :=
    Nat.lt_of_lt_of_le (Nat.add_lt_add_left hw _) (Nat.succ_mul n 8 ▸ Nat.mul_le_mul_right 8 h2)
  refine ⟨Nat.lt_of_lt_of_le hlt (by decide), ?_, ?_, ?_⟩
  · rw [Nat.add_comm, Nat.add_mul_div_right _ _ (by decide), Nat.div_eq_of_lt hw, Nat.zero_add]
  · rw [Nat.mul_add_mod', Nat.mod_eq_of_lt hw]
  · rw [Bool.or_eq_false_iff, beq_eq_false_iff_ne, decide_eq_false_iff_not]
    exact ⟨Nat.ne_of_gt h1, Nat.not_le_of_lt hlt⟩

theorem splitFields_encField (fuel : Nat) (f : Field) (rest : Bytes) (hf : f.numOk)
    (hp : ∀ n p, f = (n, .len p) → p.length < 2 ^ 64) :
    splitFields (fuel + 1) (encField f ++ rest) = (splitFields fuel rest).map (f :: ·) := by
  obtain ⟨n, v | _ | p | _⟩ := f
  · obtain ⟨h1, h2, h3⟩ := hf
    obtain ⟨ht, hd, hm, h0⟩ := tag_arith h1 h2 (show 0 < 8 by decide)
    obtain ⟨x, xs, hx⟩ := List.exists_cons_of_ne_nil (varint_ne_nil (n * 8 + 0))
    have hr := readVarint_varint (n * 8 + 0) ht (varint v ++ rest)
    rw [show encField (n, .varint v) ++ rest = varint (n * 8 + 0) ++ (varint v ++ rest) from List.append_assoc _ _ _]
    rw [hx, List.cons_append] at hr ⊢
    simp only [splitFields, hr]
    rw [hd, hm, h0, if_neg Bool.false_ne_true, if_pos (by decide), readVarint_varint v h3 rest]
  · exact hf.elim
  · obtain ⟨h1, h2⟩ := hf
    obtain ⟨ht, hd, hm, h0⟩ := tag_arith h1 h2 (show 2 < 8 by decide)
    obtain ⟨x, xs, hx⟩ := List.exists_cons_of_ne_nil (varint_ne_nil (n * 8 + 2))
    have hr := readVarint_varint (n * 8 + 2) ht (varint p.length ++ (p ++ rest))
    rw [show encField (n, .len p) ++ rest = varint (n * 8 + 2) ++ (varint p.length ++ (p ++ rest)) by
      simp only [encField, lenDelim, tag, List.append_assoc]]
    rw [hx, List.cons_append] at hr ⊢
    simp only [splitFields, hr]
    rw [hd, hm, h0, if_neg Bool.false_ne_true, if_neg (by decide), if_neg (by decide), if_pos (by decide),
      readVarint_varint _ (hp n p rfl) _]
    simp only
    rw [if_neg (by rw [List.length_append]; exact Nat.not_lt.2 (Nat.le_add_right _ _)), List.take_left, List.drop_left]
  · exact hf.elim

theorem splitFields_flatMap (fs : List Field) : ∀ fuel, fs.length < fuel → (∀ f ∈ fs, f.numOk) →
    (fs.flatMap encField).length < 2 ^ 64 → splitFields fuel (fs.flatMap encField) = some fs := by
  induction fs with
  | nil =>
    intro fuel hf _ _
    obtain ⟨fuel, rfl⟩ : ∃ f, fuel = f + 1 := ⟨fuel - 1, by omega⟩
    rfl
  | cons f fs ih =>
    intro fuel hf hok hlen
    obtain ⟨fuel, rfl⟩ : ∃ f, fuel = f + 1 := ⟨fuel - 1, by omega⟩
    simp only [List.flatMap_cons, List.length_append, List.length_cons] at hlen hf ⊢
    have hp : ∀ n p, f = (n, .len p) → p.length < 2 ^ 64 := by
      intro n p e
      subst e
      simp only [encField, lenDelim, List.length_append] at hlen
      omega
    rw [splitFields_encField fuel f _ (hok f List.mem_cons_self) hp,
      ih fuel (by omega) (fun g hg => hok g (List.mem_cons_of_mem _ hg)) (by omega)]
    rfl

theorem fieldsOf_flatMap (fs : List Field) (hok : ∀ f ∈ fs, f.numOk)
    (hlen : (fs.flatMap encField).length < 2 ^ 64) : fieldsOf (fs.flatMap encField) = .ok fs := by
  unfold fieldsOf
  rw [splitFields_flatMap fs _ (Nat.lt_succ_of_le (flatMap_encField_length fs hok)) hok hlen]


/-- The side condition of `fieldsOf_flatMap` on a canonical field list. -/
def AllOk (fs : List Field) : Prop := ∀ f ∈ fs, f.numOk

theorem AllOk.nil : AllOk [] := by intro f hf; cases hf
theorem AllOk.append {a b : List Field} (ha : AllOk a) (hb : AllOk b) : AllOk (a ++ b) := by
  intro f hf
  rcases List.mem_append.mp hf with h | h
  · exact ha f h
  · exact hb f h
theorem AllOk.len (k : Nat) (p : Bytes) (h1 : 1 ≤ k) (h2 : k < 2 ^ 29) : AllOk [(k, .len p)] := by
  intro f hf
  cases List.mem_singleton.1 hf
  exact ⟨h1, h2⟩
theorem AllOk.varint (k v : Nat) (h1 : 1 ≤ k) (h2 : k < 2 ^ 29) (hv : v < 2 ^ 64) :
    AllOk [(k, .varint v)] := by
  intro f hf
  simp only [List.mem_singleton] at hf
  subst hf
  exact ⟨h1, h2, hv⟩

/-- The bytes `b` are the canonical encoding of the field list `fs`: what `fieldsOf_flatMap` needs to split `b` back
    into `fs`. -/
structure Canon (b : Bytes) (fs : List Field) : Prop where
  eq : b = fs.flatMap encField
  ok : AllOk fs

theorem Canon.nil : Canon [] [] := ⟨rfl, AllOk.nil⟩

theorem Canon.append {b₁ b₂ : Bytes} {fs₁ fs₂ : List Field} (h₁ : Canon b₁ fs₁) (h₂ : Canon b₂ fs₂) :
    Canon (b₁ ++ b₂) (fs₁ ++ fs₂) :=
  ⟨by rw [List.flatMap_append, ← h₁.eq, ← h₂.eq], h₁.ok.append h₂.ok⟩

theorem Canon.len (k : Nat) (p : Bytes) (hk : 1 ≤ k ∧ k < 2 ^ 29) : Canon (lenDelim k p) [(k, .len p)] :=
  ⟨(List.append_nil _).symm, AllOk.len k p hk.1 hk.2⟩

theorem Canon.bind_fieldsOf {α : Type} {b : Bytes} {fs : List Field} (h : Canon b fs) (hlen : b.length < 2 ^ 64)
    (k : List Field → Except PyErr α) : (fieldsOf b >>= k) = k fs := by
  rw [h.eq] at hlen ⊢
  rw [fieldsOf_flatMap fs h.ok hlen]
  rfl

/-- `Slot step b fs a a'`: `b` is the canonical encoding of `fs`, and folding the decoder's `step` over `fs` takes the
    state `a` to `a'` — provided `b` is short enough for the length prefixes in it to be read back. A message body is
    an append of slots (`Slot.append`); `Slot.decodes` is the round trip of the whole message. -/
structure Slot {σ : Type} (step : σ → Field → Except PyErr σ) (b : Bytes) (fs : List Field) (a a' : σ) : Prop
    extends Canon b fs where
  fold : b.length < 2 ^ 64 → fs.foldlM step a = .ok a'

section
variable {σ : Type} {step : σ → Field → Except PyErr σ}

theorem Slot.nil {a : σ} : Slot step [] [] a a := ⟨Canon.nil, fun _ => rfl⟩

theorem Slot.append {b₁ b₂ : Bytes} {fs₁ fs₂ : List Field} {a a₁ a₂ : σ} (h₁ : Slot step b₁ fs₁ a a₁)
    (h₂ : Slot step b₂ fs₂ a₁ a₂) : Slot step (b₁ ++ b₂) (fs₁ ++ fs₂) a a₂ := by
  refine ⟨h₁.toCanon.append h₂.toCanon, fun hlen => ?_⟩
  rw [List.length_append] at hlen
  rw [List.foldlM_append, h₁.fold (Nat.lt_of_le_of_lt (Nat.le_add_right _ _) hlen), Except.ok_bind,
    h₂.fold (Nat.lt_of_le_of_lt (Nat.le_add_left _ _) hlen)]

/-- One field `f`, on which the step takes `a` to `a'`. -/
theorem Slot.field {a a' : σ} (f : Field) (hf : f.numOk) (hs : (encField f).length < 2 ^ 64 → step a f = .ok a') :
    Slot step (encField f) [f] a a' := by
  refine ⟨⟨(List.append_nil _).symm, fun g hg => List.mem_singleton.1 hg ▸ hf⟩, fun hlen => ?_⟩
  show (step a f >>= pure) = _
  rw [hs hlen]
  rfl

theorem Slot.decodes {b : Bytes} {fs : List Field} {a a' : σ} (h : Slot step b fs a a') (hlen : b.length < 2 ^ 64) :
    (fieldsOf b >>= fun fs => fs.foldlM step a) = .ok a' := by
  rw [h.toCanon.bind_fieldsOf hlen, h.fold hlen]

/-- The same for a decoder that folds with `foldl`: its step never fails. -/
theorem Slot.decodes_pure {g : σ → Field → σ} {b : Bytes} {fs : List Field} {a a' : σ}
    (h : Slot (fun a f => pure (g a f)) b fs a a') (hlen : b.length < 2 ^ 64) :
    (fieldsOf b >>= fun fs => pure (fs.foldl g a)) = .ok a' := by
  rw [h.toCanon.bind_fieldsOf hlen, ← List.foldlM_pure]
  exact h.fold hlen
end

def uintFields (k n : Nat) : List Field := if n == 0 then [] else [(k, .varint n)]
def boolFields (k : Nat) (b : Bool) : List Field := if b then [(k, .varint 1)] else []
def strFields (k : Nat) (s : String) : List Field := if s == "" then [] else [(k, .len (utf8 s))]

theorem u32_of_lt (n : Nat) (h : n < 2 ^ 32) : u32 n = n := Nat.mod_eq_of_lt h

/-! ### Optional scalars

An optional field is left out when the value is the default one. `set a x` is the state after the decoder's step has
seen the value `x` in state `a`. Folding the step over the slot gives `set a v`, provided `set a default = a`: a value
that is left out is the one the state holds already. -/

section
variable {σ : Type} {step : σ → Field → Except PyErr σ} {a : σ} {k : Nat} (hk : 1 ≤ k ∧ k < 2 ^ 29)
include hk

theorem Slot.uint (set : σ → Nat → σ) {v : Nat} (hs : step a (k, .varint v) = .ok (set a (u32 v)))
    (hv : v < 2 ^ 32) (h0 : set a 0 = a) : Slot step (uintField k v) (uintFields k v) a (set a v) := by
  unfold uintField uintFields
  split
  · rename_i h
    rw [eq_of_beq h, h0]
    exact .nil
  · exact .field (k, .varint v) ⟨hk.1, hk.2, Nat.lt_trans hv (by decide)⟩ fun _ => by rw [hs, u32_of_lt v hv]

theorem Slot.bool (set : σ → Bool → σ) {v : Bool} (hs : step a (k, .varint 1) = .ok (set a true))
    (h0 : set a false = a) : Slot step (boolField k v) (boolFields k v) a (set a v) := by
  cases v
  · rw [h0]
    exact .nil
  · rw [show boolField k true = encField (k, .varint 1) from congrArg (tag k 0 ++ ·) (varint_lt 1 (by decide)).symm]
    exact .field (k, .varint 1) ⟨hk.1, hk.2, by decide⟩ fun _ => hs

theorem Canon.str (s : String) : Canon (strField k s) (strFields k s) := by
  unfold strField strFields
  split
  · exact .nil
  · exact .len k _ hk

theorem Slot.str (set : σ → String → σ) {s : String}
    (hs : step a (k, .len (utf8 s)) = (do let x ← decStr (utf8 s); pure (set a x))) (h0 : set a "" = a) :
    Slot step (strField k s) (strFields k s) a (set a s) := by
  refine ⟨.str hk s, fun _ => ?_⟩
  unfold strFields
  split
  · rename_i h
    rw [eq_of_beq h, h0]
    rfl
  · show (step a (k, .len (utf8 s)) >>= pure) = _
    rw [hs, decStr_utf8]
    rfl
end

theorem decIriInto_enc (p n : Nat) (hp : p < 2 ^ 32) (hn : n < 2 ^ 32)
    (hlen : (encIri p n).length < 2 ^ 64) : decIriInto (0, 0) (encIri p n) = .ok (p, n) :=
  Slot.decodes_pure (.append (.uint (by decide) (fun a x => (x, a.2)) rfl hp rfl)
    (.uint (by decide) (fun a x => (a.1, x)) rfl hn rfl)) hlen

def WLitKind.wf : WLitKind → Prop
  | .dt id => id < 2 ^ 32
  | _ => True

theorem decLiteralInto_enc (lex : String) (k : WLitKind) (hk : k.wf)
    (hlen : (encLiteral lex k).length < 2 ^ 64) :
    decLiteralInto ("", .plain) (encLiteral lex k) = .ok (lex, k) := by
  cases k with
  | plain => exact Slot.decodes (.str (by decide) (fun a x => (x, a.2)) rfl rfl) hlen
  | lang l =>
    exact Slot.decodes (.append (.str (by decide) (fun a x => (x, a.2)) rfl rfl)
      (.field (2, .len (utf8 l)) ⟨by decide, by decide⟩ fun _ =>
        show (decStr (utf8 l) >>= _) = _ by rw [decStr_utf8]; rfl)) hlen
  | dt id =>
    rw [encLiteral, List.append_assoc] at hlen ⊢
    exact Slot.decodes (.append (.str (by decide) (fun a x => (x, a.2)) rfl rfl)
      (.field (3, .varint id) ⟨by decide, by decide, Nat.lt_trans hk (by decide)⟩ fun _ =>
        show Except.ok (lex, WLitKind.dt (u32 id)) = _ by rw [u32_of_lt id hk])) hlen

theorem decEntryInto_enc (id : Nat) (v : String) (hid : id < 2 ^ 32)
    (hlen : (encEntry id v).length < 2 ^ 64) :
    decEntryInto (0, "") (encEntry id v) = .ok (id, v) :=
  Slot.decodes (.append (.uint (by decide) (fun a x => (x, a.2)) rfl hid rfl)
    (.str (by decide) (fun a x => (a.1, x)) rfl rfl)) hlen

theorem decOptionsInto_enc (o : Options) (h : o.wf = true) (hlen : (encOptions o).length < 2 ^ 64) :
    decOptionsInto {} (encOptions o) = .ok o := by
  simp only [Options.wf, Bool.and_eq_true, decide_eq_true_eq, and_assoc] at h
  obtain ⟨h1, h2, h3, h4, h5, h6⟩ := h
  exact Slot.decodes (.append (.append (.append (.append (.append (.append (.append (.append
    (.str (by decide) (fun (a : Options) v => { a with streamName := v }) rfl rfl)
    (.uint (by decide) (fun (a : Options) v => { a with physicalType := v }) rfl h1 rfl))
    (.bool (by decide) (fun (a : Options) v => { a with generalized := v }) rfl rfl))
    (.bool (by decide) (fun (a : Options) v => { a with rdfStar := v }) rfl rfl))
    (.uint (by decide) (fun (a : Options) v => { a with maxNames := v }) rfl h2 rfl))
    (.uint (by decide) (fun (a : Options) v => { a with maxPrefixes := v }) rfl h3 rfl))
    (.uint (by decide) (fun (a : Options) v => { a with maxDatatypes := v }) rfl h4 rfl))
    (.uint (by decide) (fun (a : Options) v => { a with logicalType := v }) rfl h5 rfl))
    (.uint (by decide) (fun (a : Options) v => { a with version := v }) rfl h6 rfl)) hlen

theorem lenDelim_payload_lt {k : Nat} {p : Bytes} {N : Nat} (h : (lenDelim k p).length < N) :
    p.length < N := by
  simp only [lenDelim, List.length_append] at h; omega

theorem encField_len (k : Nat) (p : Bytes) : encField (k, .len p) = lenDelim k p := rfl

theorem WTerm.iri_lt_of_wfSpo {p n : Nat} (h : (WTerm.iri p n).wfSpo = true) : p < 2 ^ 32 ∧ n < 2 ^ 32 := by
  simp only [WTerm.wfSpo, Bool.and_eq_true, decide_eq_true_eq] at h
  exact h

theorem WLitKind.wf_of_wfSpo {lex : String} {k : WLitKind} (h : (WTerm.literal lex k).wfSpo = true) : k.wf := by
  cases k with
  | dt id => exact (of_decide_eq_true h : id < U32)
  | _ => trivial

def graphFields (base : Nat) : WTerm → List Field
  | .iri p n => [(base, .len (encIri p n))]
  | .bnode s => [(base + 1, .len (utf8 s))]
  | .defaultGraph => [(base + 2, .len [])]
  | .literal lex k => [(base + 3, .len (encLiteral lex k))]
  | .triple _ _ _ => []

def optGraphFields (base : Nat) : Option WTerm → List Field
  | none => []
  | some t => graphFields base t

theorem optGraph_eq (base : Nat) (g : Option WTerm) :
    (match g with | some t => encGraphTerm base t | none => []) = (optGraphFields base g).flatMap encField := by
  obtain _ | t := g
  · rfl
  cases t
  case triple => rfl
  all_goals exact (List.append_nil _).symm

/-- An optional graph term at the oneof starting at `base`, as `encRow` writes it in a quad and in a graph start. -/
def encOptGraph (base : Nat) (g : Option WTerm) : Bytes :=
  match g with
  | some t => encGraphTerm base t
  | none => []

theorem optGraphCanon (base : Nat) (g : Option WTerm) (hb : 1 ≤ base ∧ base + 3 < 2 ^ 29) :
    Canon (encOptGraph base g) (optGraphFields base g) := by
  refine ⟨optGraph_eq base g, ?_⟩
  obtain _ | t := g
  · exact .nil
  cases t
  case triple => exact .nil
  all_goals exact .len _ _ (by omega) (by omega)

/-- A graph-start message: the graph oneof is its one slot. -/
theorem decGraphStartInto_enc (g : Option WTerm) (hg : optWfGraph g = true)
    (hlen : (encOptGraph 1 g).length < 2 ^ 64) : decGraphStartInto none (encOptGraph 1 g) = .ok g := by
  refine Slot.decodes ⟨optGraphCanon 1 g (by decide), fun hlen => ?_⟩ hlen
  cases g with
  | none => rfl
  | some t =>
    cases t with
    | iri p n =>
      obtain ⟨hp, hn⟩ := WTerm.iri_lt_of_wfSpo hg
      show ((decIriInto (0, 0) (encIri p n) >>= _) >>= pure) = _
      rw [decIriInto_enc p n hp hn (lenDelim_payload_lt (k := 1) hlen)]
      rfl
    | bnode s =>
      show ((decStr (utf8 s) >>= _) >>= pure) = _
      rw [decStr_utf8]
      rfl
    | defaultGraph => rfl
    | literal lex k =>
      show ((decLiteralInto ("", .plain) (encLiteral lex k) >>= _) >>= pure) = _
      rw [decLiteralInto_enc lex k (WLitKind.wf_of_wfSpo hg) (lenDelim_payload_lt (k := 1 + 3) hlen)]
      rfl
    | triple => cases hg

def nsIriFields : Option (Nat × Nat) → List Field
  | some (p, n) => [(2, .len (encIri p n))]
  | none => []

theorem nsCanon (name : String) (iri : Option (Nat × Nat)) :
    Canon (strField 1 name ++ (match iri with | some (p, n) => lenDelim 2 (encIri p n) | none => []))
      (strFields 1 name ++ nsIriFields iri) := by
  refine .append (.str (by decide) name) ?_
  obtain _ | ⟨p, n⟩ := iri
  · exact .nil
  · exact .len 2 _ (by decide)

theorem nsBody_eq (name : String) (iri : Option (Nat × Nat)) :
    strField 1 name ++ (match iri with | some (p, n) => lenDelim 2 (encIri p n) | none => [])
      = (strFields 1 name ++ nsIriFields iri).flatMap encField :=
  (nsCanon name iri).eq

theorem decNamespaceInto_enc (name : String) (iri : Option (Nat × Nat)) (hi : (Row.namespace name iri).wireWF = true)
    (hlen : (strField 1 name ++ (match (generalizing := false) iri with
      | some (p, n) => lenDelim 2 (encIri p n) | none => [])).length < 2 ^ 64) :
    decNamespaceInto ("", none) (strField 1 name ++ (match (generalizing := false) iri with
      | some (p, n) => lenDelim 2 (encIri p n) | none => [])) = .ok (name, iri) := by
  refine Slot.decodes (.append (fs₂ := nsIriFields iri) (.str (by decide) (fun a x => (x, a.2)) rfl rfl) ?_) hlen
  obtain _ | ⟨p, n⟩ := iri
  · exact .nil
  · have hpn : p < U32 ∧ n < U32 := by
      simpa only [Row.wireWF, Bool.and_eq_true, decide_eq_true_eq] using hi
    exact .field (2, .len (encIri p n)) ⟨by decide, by decide⟩ fun hl =>
      show (decIriInto (0, 0) (encIri p n) >>= _) = _ by
        rw [decIriInto_enc p n hpn.1 hpn.2 (lenDelim_payload_lt hl)]; rfl

/-- `SpoOk d t`: `t` can sit in subject/predicate/object position (ids are uint32, no default-graph
    marker) and its quoted triples nest at most `d` deep. -/
inductive SpoOk : Nat → WTerm → Prop
  | iri (d p n : Nat) : p < 2 ^ 32 → n < 2 ^ 32 → SpoOk d (.iri p n)
  | bnode (d : Nat) (s : String) : SpoOk d (.bnode s)
  | literal (d : Nat) (lex : String) (k : WLitKind) : k.wf → SpoOk d (.literal lex k)
  | triple (d : Nat) (s p o : Option WTerm) :
      (∀ t, s = some t → SpoOk d t) → (∀ t, p = some t → SpoOk d t) → (∀ t, o = some t → SpoOk d t) →
      SpoOk (d + 1) (.triple s p o)

def OptOk (d : Nat) (o : Option WTerm) : Prop := ∀ t, o = some t → SpoOk d t

mutual
  theorem spoOk_of_wf : ∀ (t : WTerm) (d : Nat), t.wfSpo = true → t.depth ≤ d → SpoOk d t
    | .iri p n, d, h, _ => .iri d p n (WTerm.iri_lt_of_wfSpo h).1 (WTerm.iri_lt_of_wfSpo h).2
    | .bnode s, d, _, _ => .bnode d s
    | .literal lex k, d, h, _ => .literal d lex k (WLitKind.wf_of_wfSpo h)
    | .triple s p o, d, h, hd => by
      simp only [WTerm.wfSpo, Bool.and_eq_true] at h
      simp only [WTerm.depth] at hd
      obtain ⟨d', rfl⟩ : ∃ d', d = d' + 1 := ⟨d - 1, by omega⟩
      exact .triple d' s p o (optOk_of_wf s d' h.1.1 (by omega)) (optOk_of_wf p d' h.1.2 (by omega))
        (optOk_of_wf o d' h.2 (by omega))
    | .defaultGraph, _, h, _ => by cases h
  theorem optOk_of_wf : ∀ (o : Option WTerm) (d : Nat), WTerm.wfOptSpo o = true →
      WTerm.depth.optDepth o ≤ d → OptOk d o
    | none, _, _, _ => by intro t ht; cases ht
    | some t, d, h, hd => by
      intro t' ht'
      cases ht'
      exact spoOk_of_wf t d h hd
end

def spoFields (base : Nat) : WTerm → List Field
  | .iri p n => [(base, .len (encIri p n))]
  | .bnode s => [(base + 1, .len (utf8 s))]
  | .literal lex k => [(base + 2, .len (encLiteral lex k))]
  | .triple s p o => [(base + 3, .len (encTripleBody s p o))]
  | .defaultGraph => []

def optSpoFields (base : Nat) : Option WTerm → List Field
  | none => []
  | some t => spoFields base t


theorem optSpoCanon (base : Nat) (o : Option WTerm) (hb : 1 ≤ base ∧ base + 3 < 2 ^ 29) :
    Canon (encOptSpo base o) (optSpoFields base o) := by
  obtain _ | t := o
  · exact .nil
  cases t
  case defaultGraph => exact .nil
  all_goals exact .len _ _ (by omega)

def tripleFields (s p o : Option WTerm) : List Field :=
  optSpoFields 1 s ++ optSpoFields 5 p ++ optSpoFields 9 o

theorem tripleCanon (s p o : Option WTerm) : Canon (encTripleBody s p o) (tripleFields s p o) :=
  ((optSpoCanon 1 s (by decide)).append (optSpoCanon 5 p (by decide))).append
    (optSpoCanon 9 o (by decide))

def stmtStep (depth : Nat) (quad : Bool) (m : StmtMsg) (f : Field) : Except PyErr StmtMsg := do
      let (n, v) := f
      if 1 ≤ n && n ≤ 4 then
        match ← decSpoMember (decStmtInto depth false) m.s (n - 1) v with
        | some t => pure { m with s := t }
        | none => pure m
      else if 5 ≤ n && n ≤ 8 then
        match ← decSpoMember (decStmtInto depth false) m.p (n - 5) v with
        | some t => pure { m with p := t }
        | none => pure m
      else if 9 ≤ n && n ≤ 12 then
        match ← decSpoMember (decStmtInto depth false) m.o (n - 9) v with
        | some t => pure { m with o := t }
        | none => pure m
      else if quad then
        match n, v with
        | 13, .len p => do let (a, b) ← decIriInto (iriInit m.g) p; pure { m with g := some (.iri a b) }
        | 14, .len p => do let s ← decStr p; pure { m with g := some (.bnode s) }
        | 15, .len p => do let _ ← fieldsOf p; pure { m with g := some .defaultGraph }
        | 16, .len p => do let (l, k) ← decLiteralInto (litInit m.g) p; pure { m with g := some (.literal l k) }
        | _, _ => pure m
      else pure m

/-- Quoted triples one level down are read back: what the statement parser at nesting budget `D` needs of the
    recursive call it hands to `decSpoMember`. -/
def RecOk (D : Nat) : Prop :=
  ∀ D', D = D' + 1 → ∀ s p o, OptOk D' s → OptOk D' p → OptOk D' o → (encTripleBody s p o).length < 2 ^ 64 →
    decStmtInto D false {} (encTripleBody s p o) = .ok { s := s, p := p, o := o }

/-- The s/p/o oneofs of a statement: field `1 + k`, `5 + k`, `9 + k` (`k ≤ 3`) is member `k` of the subject, predicate,
    object. -/
theorem stmtStep_member (D : Nat) (q : Bool) (m : StmtMsg) (v : WireVal) (k : Nat) (hk : k ≤ 3) :
    stmtStep D q m (1 + k, v) = (decSpoMember (decStmtInto D false) m.s k v >>= fun r =>
      match r with | some t => pure { m with s := t } | none => pure m) ∧
    stmtStep D q m (5 + k, v) = (decSpoMember (decStmtInto D false) m.p k v >>= fun r =>
      match r with | some t => pure { m with p := t } | none => pure m) ∧
    stmtStep D q m (9 + k, v) = (decSpoMember (decStmtInto D false) m.o k v >>= fun r =>
      match r with | some t => pure { m with o := t } | none => pure m) := by
  obtain _ | _ | _ | _ | k := k
  · exact ⟨rfl, rfl, rfl⟩
  · exact ⟨rfl, rfl, rfl⟩
  · exact ⟨rfl, rfl, rfl⟩
  · exact ⟨rfl, rfl, rfl⟩
  · omega

/-- One s/p/o oneof as a slot: `get`/`set` are the component of the statement that the fields `base … base + 3`
    belong to. -/
theorem spoSlot {D : Nat} {q : Bool} (hrec : RecOk D) (get : StmtMsg → Option WTerm)
    (set : StmtMsg → Option WTerm → StmtMsg) {base : Nat} (hb : 1 ≤ base ∧ base + 3 < 2 ^ 29) {m : StmtMsg}
    (hstep : ∀ k v, k ≤ 3 → stmtStep D q m (base + k, v) = (decSpoMember (decStmtInto D false) (get m) k v >>= fun r =>
      match r with | some t => pure (set m t) | none => pure m))
    (hm : get m = none) (h0 : set m none = m) (o : Option WTerm) (ho : OptOk D o) :
    Slot (stmtStep D q) (encOptSpo base o) (optSpoFields base o) m (set m o) := by
  refine ⟨optSpoCanon base o hb, fun hlen => ?_⟩
  have member : ∀ k p t, k ≤ 3 → decSpoMember (decStmtInto D false) none k (.len p) = .ok (some (some t)) →
      [(base + k, WireVal.len p)].foldlM (stmtStep D q) m = .ok (set m (some t)) := by
    intro k p t hk hd
    show (stmtStep D q m (base + k, .len p) >>= pure) = _
    rw [hstep k _ hk, hm, hd]
    rfl
  cases o with
  | none => rw [h0]; rfl
  | some t =>
    cases ho t rfl with
    | iri d p n hp hn =>
      refine member 0 _ _ (by decide) ?_
      show (decIriInto (0, 0) (encIri p n) >>= _) = _
      rw [decIriInto_enc p n hp hn (lenDelim_payload_lt (k := base) hlen)]
      rfl
    | bnode d s =>
      refine member 1 _ _ (by decide) ?_
      show (decStr (utf8 s) >>= _) = _
      rw [decStr_utf8]
      rfl
    | literal d lex k hk =>
      refine member 2 _ _ (by decide) ?_
      show (decLiteralInto ("", .plain) (encLiteral lex k) >>= _) = _
      rw [decLiteralInto_enc lex k hk (lenDelim_payload_lt (k := base + 2) hlen)]
      rfl
    | triple d s p o hs hp ho' =>
      refine member 3 _ _ (by decide) ?_
      show (decStmtInto (d + 1) false {} (encTripleBody s p o) >>= _) = _
      rw [hrec d rfl s p o hs hp ho' (lenDelim_payload_lt (k := base + 3) hlen)]
      rfl

theorem tripleSlot (D : Nat) (q : Bool) (hrec : RecOk D)
    (s p o : Option WTerm) (hs : OptOk D s) (hp : OptOk D p) (ho : OptOk D o) :
    Slot (stmtStep D q) (encTripleBody s p o) (tripleFields s p o) {} { s := s, p := p, o := o } :=
  .append (.append
    (spoSlot hrec (·.s) (fun m t => { m with s := t }) (by decide)
      (fun k v hk => (stmtStep_member D q _ v k hk).1) rfl rfl s hs)
    (spoSlot hrec (·.p) (fun m t => { m with p := t }) (by decide)
      (fun k v hk => (stmtStep_member D q _ v k hk).2.1) rfl rfl p hp))
    (spoSlot hrec (·.o) (fun m t => { m with o := t }) (by decide)
      (fun k v hk => (stmtStep_member D q _ v k hk).2.2) rfl rfl o ho)

theorem recOk_all (D : Nat) : RecOk D := by
  induction D with
  | zero => intro D' h; cases h
  | succ D ih =>
    intro D' h s p o hs hp ho hlen
    cases h
    exact (tripleSlot D false ih s p o hs hp ho).decodes hlen

/-- The graph oneof (fields 13–16) as the last slot of a quad. -/
theorem stmtGraphSlot (D : Nat) (m : StmtMsg) (hm : m.g = none) (g : Option WTerm) (hg : optWfGraph g = true) :
    Slot (stmtStep D true) (encOptGraph 13 g) (optGraphFields 13 g) m { m with g := g } := by
  refine ⟨optGraphCanon 13 g (by decide), fun hlen => ?_⟩
  cases g with
  | none => cases m; cases hm; rfl
  | some t =>
    cases t with
    | iri p n =>
      obtain ⟨hp, hn⟩ := WTerm.iri_lt_of_wfSpo hg
      show ((decIriInto (iriInit m.g) (encIri p n) >>= _) >>= pure) = _
      rw [hm, show iriInit none = (0, 0) from rfl, decIriInto_enc p n hp hn (lenDelim_payload_lt (k := 13) hlen)]
      rfl
    | bnode s =>
      show ((decStr (utf8 s) >>= _) >>= pure) = _
      rw [decStr_utf8]
      rfl
    | defaultGraph => rfl
    | literal lex k =>
      show ((decLiteralInto (litInit m.g) (encLiteral lex k) >>= _) >>= pure) = _
      rw [hm, show litInit none = ("", .plain) from rfl,
        decLiteralInto_enc lex k (WLitKind.wf_of_wfSpo hg) (lenDelim_payload_lt (k := 13 + 3) hlen)]
      rfl
    | triple => cases hg

def quadFields (s p o g : Option WTerm) : List Field := tripleFields s p o ++ optGraphFields 13 g

theorem quadBody_eq (s p o g : Option WTerm) :
    encTripleBody s p o ++ (match g with | some t => encGraphTerm 13 t | none => [])
      = (quadFields s p o g).flatMap encField :=
  ((tripleCanon s p o).append (optGraphCanon 13 g (by decide))).eq

theorem quadSlot (D : Nat) (s p o g : Option WTerm) (hs : OptOk D s) (hp : OptOk D p) (ho : OptOk D o)
    (hg : optWfGraph g = true) :
    Slot (stmtStep D true) (encTripleBody s p o ++ encOptGraph 13 g) (quadFields s p o g) {}
      { s := s, p := p, o := o, g := g } :=
  .append (tripleSlot D true (recOk_all D) s p o hs hp ho) (stmtGraphSlot D _ rfl g hg)

def rowStep (depth : Nat) (r : Row) (f : Field) : Except PyErr Row :=
    match f with
    | (1, .len p) => do
        let init := match r with | .options o => o | _ => {}
        pure (.options (← decOptionsInto init p))
    | (2, .len p) => do
        let init : StmtMsg := match r with | .triple s p o => { s, p, o } | _ => {}
        let m ← decStmtInto depth false init p
        pure (.triple m.s m.p m.o)
    | (3, .len p) => do
        let init : StmtMsg := match r with | .quad s p o g => { s, p, o, g } | _ => {}
        let m ← decStmtInto depth true init p
        pure (.quad m.s m.p m.o m.g)
    | (4, .len p) => do
        let init := match r with | .graphStart g => g | _ => none
        pure (.graphStart (← decGraphStartInto init p))
    | (5, .len p) => do let _ ← fieldsOf p; pure .graphEnd
    | (6, .len p) => do
        let init := match r with | .namespace n i => (n, i) | _ => ("", none)
        let (n, i) ← decNamespaceInto init p
        pure (.namespace n i)
    | (9, .len p) => do
        let init := match r with | .nameEntry i v => (i, v) | _ => (0, "")
        let (i, v) ← decEntryInto init p
        pure (.nameEntry i v)
    | (10, .len p) => do
        let init := match r with | .prefixEntry i v => (i, v) | _ => (0, "")
        let (i, v) ← decEntryInto init p
        pure (.prefixEntry i v)
    | (11, .len p) => do
        let init := match r with | .dtEntry i v => (i, v) | _ => (0, "")
        let (i, v) ← decEntryInto init p
        pure (.dtEntry i v)
    | _ => pure r

/-- A row is a message of one field: `rowStep` at that field is all there is to show. -/
theorem decRow_len {k : Nat} {p : Bytes} {r : Row} (hk : 1 ≤ k ∧ k < 2 ^ 29) (hlen : (lenDelim k p).length < 2 ^ 64)
    (hs : p.length < 2 ^ 64 → rowStep 99 Row.empty (k, .len p) = .ok r) : decRow 99 (lenDelim k p) = .ok r :=
  (Slot.field (k, .len p) hk fun h => hs (lenDelim_payload_lt h)).decodes hlen

theorem decRow_enc (r : Row) (h : r.wireWF = true) (hlen : (encRow r).length < 2 ^ 64) :
    decRow 99 (encRow r) = .ok r := by
  cases r with
  | empty => rfl
  | options o =>
    exact decRow_len (by decide) hlen fun hl => Except.bind_eq_ok.2 ⟨_, decOptionsInto_enc o h hl, rfl⟩
  | triple s p o =>
    simp only [Row.wireWF, Bool.and_eq_true, decide_eq_true_eq] at h
    simp only [depthLimit] at h
    obtain ⟨⟨⟨⟨⟨ws, wp⟩, wo⟩, ds⟩, dp⟩, dob⟩ := h
    exact decRow_len (by decide) hlen fun hl => Except.bind_eq_ok.2 ⟨_,
      recOk_all 99 98 rfl s p o (optOk_of_wf s 98 ws (by omega)) (optOk_of_wf p 98 wp (by omega))
        (optOk_of_wf o 98 wo (by omega)) hl, rfl⟩
  | quad s p o g =>
    simp only [Row.wireWF, Bool.and_eq_true, decide_eq_true_eq] at h
    simp only [depthLimit] at h
    obtain ⟨⟨⟨⟨⟨⟨ws, wp⟩, wo⟩, wg⟩, ds⟩, dp⟩, dob⟩ := h
    exact decRow_len (by decide) hlen fun hl => Except.bind_eq_ok.2 ⟨_,
      (quadSlot 98 s p o g (optOk_of_wf s 98 ws (by omega)) (optOk_of_wf p 98 wp (by omega))
        (optOk_of_wf o 98 wo (by omega)) wg).decodes hl, rfl⟩
  | graphStart g =>
    exact decRow_len (by decide) hlen fun hl => Except.bind_eq_ok.2 ⟨_, decGraphStartInto_enc g h hl, rfl⟩
  | graphEnd => exact decRow_len (by decide) hlen fun _ => rfl
  | «namespace» name iri =>
    exact decRow_len (by decide) hlen fun hl => Except.bind_eq_ok.2 ⟨_, decNamespaceInto_enc name iri h hl, rfl⟩
  | nameEntry id v | prefixEntry id v | dtEntry id v =>
    exact decRow_len (by decide) hlen fun hl =>
      Except.bind_eq_ok.2 ⟨_, decEntryInto_enc id v (of_decide_eq_true h) hl, rfl⟩

def frameStep (fr : Frame) (f : Field) : Except PyErr Frame :=
    match f with
    | (1, .len p) => do let r ← decRow (depthLimit - 1) p; pure { fr with rows := fr.rows ++ [r] }
    | (15, .len p) => do let (k, v) ← decMetaEntry p; pure { fr with metadata := setMeta fr.metadata k v }
    | _ => pure fr

/-- The rows of a frame on the wire: one field 1 per row. -/
def encRows (rows : List Row) : Bytes := rows.flatMap fun r => lenDelim 1 (encRow r)

def rowsFields (rows : List Row) : List Field := rows.map fun r => (1, .len (encRow r))

theorem rowsSlot (rows : List Row) (hok : ∀ r ∈ rows, r.wireWF = true) : ∀ fr : Frame,
    Slot frameStep (encRows rows) (rowsFields rows) fr { fr with rows := fr.rows ++ rows } := by
  induction rows with
  | nil => intro fr; rw [List.append_nil]; exact .nil
  | cons r rows ih =>
    intro fr
    have h1 : Slot frameStep (lenDelim 1 (encRow r)) [(1, .len (encRow r))] fr { fr with rows := fr.rows ++ [r] } :=
      .field (1, .len (encRow r)) ⟨by decide, by decide⟩ fun hl =>
        Except.bind_eq_ok.2 ⟨_, decRow_enc r (hok r List.mem_cons_self) (lenDelim_payload_lt hl), rfl⟩
    have h := h1.append (ih (fun x hx => hok x (List.mem_cons_of_mem _ hx)) _)
    rwa [List.append_assoc] at h

theorem decFrame_rows (rows : List Row) (hok : ∀ r ∈ rows, r.wireWF = true) (hlen : (encRows rows).length < 2 ^ 64) :
    decFrame (encRows rows) = .ok { rows := rows } :=
  (rowsSlot rows hok {}).decodes hlen

theorem encFrame_eq (f : Frame) (hm : f.metadata = []) : encFrame f = encRows f.rows := by
  rw [encFrame, hm]
  exact List.append_nil _

theorem decFrame_enc (f : Frame) (hok : ∀ r ∈ f.rows, r.wireWF = true) (hm : f.metadata = [])
    (hlen : (encFrame f).length < 2 ^ 64) : decFrame (encFrame f) = .ok f := by
  rw [encFrame_eq f hm] at hlen ⊢
  rw [decFrame_rows f.rows hok hlen]
  obtain ⟨rows, md⟩ := f
  cases hm
  rfl

theorem writeSingle_concat (fs : List Frame) (hm : ∀ f ∈ fs, f.metadata = []) :
    fs.flatMap writeSingle = encRows (fs.flatMap (·.rows)) := by
  induction fs with
  | nil => rfl
  | cons f fs ih =>
    rw [List.flatMap_cons, List.flatMap_cons, encRows, List.flatMap_append,
      ih (fun g hg => hm g (List.mem_cons_of_mem _ hg)), writeSingle, encFrame_eq f (hm f List.mem_cons_self)]
    rfl

theorem decFrame_single_concat (fs : List Frame) (hok : ∀ f ∈ fs, ∀ r ∈ f.rows, r.wireWF = true)
    (hm : ∀ f ∈ fs, f.metadata = []) (hlen : (fs.flatMap writeSingle).length < 2 ^ 64) :
    decFrame (fs.flatMap writeSingle) = .ok { rows := fs.flatMap (·.rows) } := by
  rw [writeSingle_concat fs hm] at hlen ⊢
  refine decFrame_rows _ ?_ hlen
  intro r hr
  obtain ⟨f, hf, hrf⟩ := List.mem_flatMap.mp hr
  exact hok f hf r hrf

/-- An empty encoding has no rows: every row takes at least its tag byte. -/
theorem encFrame_eq_nil (f : Frame) (hm : f.metadata = []) (h : encFrame f = []) : f = {} := by
  obtain ⟨rows, md⟩ := f
  cases hm
  cases rows with
  | nil => rfl
  | cons r rows =>
    rw [encFrame_eq _ rfl, encRows, List.flatMap_cons, lenDelim_one] at h
    cases h

theorem parseLengthPrefixed_write (f : Frame) (hok : ∀ r ∈ f.rows, r.wireWF = true) (hm : f.metadata = [])
    (hlen : (encFrame f).length < 2 ^ 64) (rest : Bytes) :
    parseLengthPrefixed (writeDelimited f ++ rest) = .frame f rest := by
  have hv : readStreamVarint 10 0 0 (varint (encFrame f).length ++ (encFrame f ++ rest))
      = .ok (some ((encFrame f).length, encFrame f ++ rest)) := by
    rw [readStreamVarint_of_aux 10 0 0 _ _ _ (by decide)
      (readVarintAux_varint _ 9 0 0 _ (Nat.lt_of_lt_of_le hlen (by decide))),
      Nat.zero_add, Nat.pow_zero, Nat.mul_one, Nat.mod_eq_of_lt hlen]
  unfold parseLengthPrefixed writeDelimited
  simp only [List.append_assoc]
  rw [hv]
  simp only
  by_cases h0 : (encFrame f).length = 0
  · have hnil : encFrame f = [] := List.eq_nil_of_length_eq_zero h0
    rw [hnil, encFrame_eq_nil f hm hnil]
    rfl
  · rw [if_neg (by simpa only [beq_iff_eq] using h0), List.take_left, decFrame_enc f hok hm hlen]
    simp only
    rw [if_neg (by simp only [bne_self_eq_false, Bool.false_eq_true, not_false_eq_true]), List.drop_left]

theorem writeDelimited_length_pos (f : Frame) : 0 < (writeDelimited f).length := by
  have := varint_length_pos (encFrame f).length
  simp only [writeDelimited, List.length_append]; omega

theorem restFrames_write (fs : List Frame) : ∀ fuel acc, (fs.flatMap writeDelimited).length < fuel →
    (∀ f ∈ fs, ∀ r ∈ f.rows, r.wireWF = true) → (∀ f ∈ fs, f.metadata = []) →
    (∀ f ∈ fs, (encFrame f).length < 2 ^ 64) →
    restFrames fuel (fs.flatMap writeDelimited) acc = (acc ++ fs, none) := by
  induction fs with
  | nil =>
    intro fuel acc hf _ _ _
    obtain ⟨fuel, rfl⟩ : ∃ k, fuel = k + 1 := ⟨fuel - 1, by omega⟩
    rw [List.append_nil]
    rfl
  | cons f fs ih =>
    intro fuel acc hf hok hm hlen
    obtain ⟨fuel, rfl⟩ : ∃ k, fuel = k + 1 := ⟨fuel - 1, by omega⟩
    have hpos := writeDelimited_length_pos f
    rw [List.flatMap_cons] at hf ⊢
    rw [List.length_append] at hf
    rw [restFrames, parseLengthPrefixed_write f (hok f List.mem_cons_self) (hm f List.mem_cons_self)
      (hlen f List.mem_cons_self)]
    simp only
    rw [ih fuel _ (by omega) (fun g hg => hok g (List.mem_cons_of_mem _ hg))
      (fun g hg => hm g (List.mem_cons_of_mem _ hg)) (fun g hg => hlen g (List.mem_cons_of_mem _ hg)),
      List.append_assoc]
    rfl

end Jelly
