import JellyProofs.Lemmas.SerRows
import JellyProofs.Lemmas.RowBracket
import JellyProofs.Lemmas.EncodeInv
/-!
# A grouped flow hands out one frame per sink (writer side of C07 c)

A flow that is not bounded ignores `frame_from_bounds`, the only flush the prologue and the statement loops
offer: all rows of a run stay in the flow until the epilogue, whose first flush (the one that serves the flow's kind)
takes them in one frame.
-/
namespace Jelly

structure Stream.Same (s s' : Stream) : Prop where
  cls : s'.cls = s.cls
  kind : s'.flow.kind = s.flow.kind
  enrolled : s'.enrolled = s.enrolled

theorem Stream.pushRows_same (s : Stream) (rows : List Row) : Stream.Same s (s.pushRows rows) :=
  ⟨rfl, rfl, rfl⟩

theorem Flow.toStreamFrame_empty (f : Flow) (h : f.rows = []) : f.toStreamFrame = (f, none) := by
  simp [Flow.toStreamFrame, h]

theorem Flow.toStreamFrame_nonempty (f : Flow) (h : f.rows ≠ []) :
    f.toStreamFrame = ({ f with rows := [] }, some { rows := f.rows }) := by
  simp [Flow.toStreamFrame, h]

/-- A command that offers no flush but `frame_from_bounds`. -/
def Cmd.Quiet : Cmd → Prop
  | .cut .bounds => True
  | .cut _ => False
  | .emit _ => True

theorem Run.exec_quiet {cs : List Cmd} (h : ∀ c ∈ cs, c.Quiet) (r : Run)
    (hk : r.stream.flow.kind.isBounded = false) : (r.exec cs).frames = r.frames := by
  induction cs generalizing r with
  | nil => rfl
  | cons c cs ih =>
    have ih' := ih fun c hc => h c (List.mem_cons_of_mem _ hc)
    cases c with
    | cut k =>
      cases k
      case bounds =>
        have hb : r.stream.flow.frameFromBounds = (r.stream.flow, none) := by simp [Flow.frameFromBounds, hk]
        rw [Run.exec_cut, CutKind.apply, hb]
        have hf : (r.pushCut (r.stream.flow, none)).frames = r.frames := by simp [Run.pushCut]
        exact (ih' (r.pushCut (r.stream.flow, none)) hk).trans hf
      all_goals exact (h _ List.mem_cons_self).elim
    | emit op =>
      rw [Run.exec_emit]
      rcases op r.stream.enc with ⟨enc', e | rows⟩
      · rfl
      · exact ih' _ hk

theorem stmtCmds_quiet (op : List Term → EncOp) (ts : List (List Term)) : ∀ c ∈ stmtCmds op ts, c.Quiet := by
  intro c hc
  obtain ⟨t, _, hc⟩ := List.mem_flatMap.1 hc
  simp only [List.mem_cons, List.not_mem_nil, or_false] at hc
  rcases hc with rfl | rfl <;> trivial

theorem prologueCmds_quiet (b : Bool) (d : SerData) : ∀ c ∈ prologueCmds b d, c.Quiet := by
  intro c hc
  obtain ⟨x, _, rfl⟩ := List.mem_map.1 hc
  split <;> trivial

/-- An operation that, when it succeeds, writes at least one row. -/
def EncOp.Writes (op : EncOp) : Prop := ∀ enc enc' rows, op enc = (enc', .ok rows) → rows ≠ []

theorem tripleOp_writes (exc : PyErr) (t : List Term) : (tripleOp exc t).Writes := by
  intro enc enc' rows h
  obtain ⟨st1, hb, _⟩ := encodeTriple_ok_inv h
  obtain ⟨-, -, -, -, -, -, r, ws, wp, wo, -, -, -, rfl⟩ := encodeTripleBody_ok_inv hb
  simp

theorem quadOp_writes (exc : PyErr) (t : List Term) : (quadOp exc t).Writes := by
  intro enc enc' rows h
  obtain ⟨st1, hb, _⟩ := encodeQuad_ok_inv h
  obtain ⟨-, -, -, -, -, -, -, r, ws, wp, wo, -, -, r4, wg, -, -, -, -, rfl⟩ := encodeQuadBody_ok_inv hb
  simp

theorem flatRun_stmtCmds_ne_nil {op : List Term → EncOp} (hop : ∀ t, (op t).Writes) {ts : List (List Term)}
    (hts : ts ≠ []) (enc : EncState) (hok : (flatRun enc (stmtCmds op ts)).2.2 = none) :
    (flatRun enc (stmtCmds op ts)).2.1 ≠ [] := by
  obtain _ | ⟨t, ts⟩ := ts
  · exact absurd rfl hts
  rw [stmtCmds_cons, flatRun_emit] at hok ⊢
  rcases h : op t enc with ⟨enc', e | rows⟩
  · rw [h] at hok; cases hok
  · simp [hop t enc enc' rows h]

/-- The epilogue's two flushes on a flow holding rows, the first of them the one that serves the flow's kind. -/
theorem Run.exec_epilogue_one_frame (r : Run) (b : Bool) (hne : r.stream.flow.rows ≠ [])
    (hb : r.stream.flow.kind = if b then .datasets else .graphs) :
    (r.exec [.cut (epiKind b), .cut .all]).frames = r.frames ++ [{ rows := r.stream.flow.rows }] := by
  cases b <;>
    simp_all [epiKind, CutKind.apply, Flow.frameFromGraph, Flow.frameFromDataset, Flow.toStreamFrame, Run.pushCut,
      Run.push]

/-- Prologue, statements, epilogue on a fresh run over a grouped flow: when nothing fails, one frame. -/
theorem Run.exec_grouped {op : List Term → EncOp} (hop : ∀ t, (op t).Writes) {pro : List Cmd}
    (hpro : ∀ c ∈ pro, c.Quiet) (b : Bool) (s : Stream) (hb : s.flow.kind = if b then .datasets else .graphs)
    {ts : List (List Term)} (hts : ts ≠ [])
    (hok : (Run.exec { stream := s } (pro ++ (stmtCmds op ts ++ [.cut (epiKind b), .cut .all]))).err = none) :
    (Run.exec { stream := s } (pro ++ (stmtCmds op ts ++ [.cut (epiKind b), .cut .all]))).frames.length = 1 := by
  have hk : s.flow.kind.isBounded = false := by rw [hb]; cases b <;> rfl
  obtain ⟨e1, h1⟩ := Run.exec_append_of_ok rfl hok
  rw [h1] at hok ⊢
  have f1 := Run.exec_flat pro { stream := s }
  have q1 := Run.exec_quiet hpro { stream := s } hk
  generalize Run.exec { stream := s } pro = r1 at hok e1 f1 q1 ⊢
  obtain ⟨e2, h2⟩ := Run.exec_append_of_ok e1 hok
  rw [h2]
  have f2 := Run.exec_flat (stmtCmds op ts) r1
  have q2 := Run.exec_quiet (stmtCmds_quiet op ts) r1 (f1.keeps.kind ▸ hk)
  have w2 := flatRun_stmtCmds_ne_nil hop hts r1.stream.enc (by rw [← Run.exec_err e1]; exact e2)
  generalize r1.exec (stmtCmds op ts) = r2 at f2 q2 ⊢
  have hrows : r2.stream.flow.rows ≠ [] := by
    have := f2.rows
    simp only [Run.allRows', q2, q1, List.flatMap_nil, List.nil_append] at this
    rw [this]
    simp [w2]
  rw [Run.exec_epilogue_one_frame r2 b hrows (by rw [f2.keeps.kind, f1.keeps.kind]; exact hb), q2, q1]
  rfl

end Jelly
