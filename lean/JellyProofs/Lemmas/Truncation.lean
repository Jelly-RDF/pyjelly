import JellyModel.Parse
import JellyProofs.Lemmas.Framing
/-!
# The framing loops of `JellyModel/Parse.lean`: truncation, and the options search against the frame iterator

"Cut" streams are phrased as prefixes: `b'` is a cut of `b' ++ tail`. A read from a cut stream is the same read from the
whole stream (`parseLengthPrefixed_frame`), hence what the loops deliver grows with the input. The search for the
options delivers what the frame iterator delivers (`firstNonEmpty_of_restFrames`).
-/
namespace Jelly

/-- A successful read of the stream varint reader consumes at least one byte, and with anything appended to the
    input the result is the same and the rest is extended. -/
theorem readStreamVarint_ok (fuel sh acc : Nat) (b : Bytes) (v : Nat) (r : Bytes)
    (h : readStreamVarint fuel sh acc b = .ok (some (v, r))) :
    r.length < b.length ∧ ∀ tail, readStreamVarint fuel sh acc (b ++ tail) = .ok (some (v, r ++ tail)) := by
  revert h
  fun_induction readStreamVarint fuel sh acc b with
  | case4 fuel sh acc x xs acc' hx =>  -- last byte of the varint
    intro h
    cases h
    exact ⟨Nat.lt_succ_self _, fun tail => by rw [List.cons_append, readStreamVarint]; exact if_pos hx⟩
  | case6 fuel sh acc x xs acc' hx hs ih =>  -- continuation byte
    intro h
    obtain ⟨h1, h2⟩ := ih h
    refine ⟨Nat.lt_succ_of_lt h1, fun tail => ?_⟩
    rw [List.cons_append, readStreamVarint, if_neg hx, if_neg hs]
    exact h2 tail
  | _ => intro h; cases h  -- end of input, or a raise

/-- The same for one length-prefixed read: a frame read from a cut stream is read from the whole stream as well,
    and the rest of the cut stream is the cut rest. -/
theorem parseLengthPrefixed_frame (b : Bytes) (f : Frame) (rest : Bytes)
    (h : parseLengthPrefixed b = .frame f rest) :
    rest.length < b.length ∧ ∀ tail, parseLengthPrefixed (b ++ tail) = .frame f (rest ++ tail) := by
  revert h
  fun_cases parseLengthPrefixed b with
  | case3 size r' hv hs =>  -- declared size 0: the empty frame
    intro h
    cases h
    obtain ⟨hlt, happ⟩ := readStreamVarint_ok _ _ _ _ _ _ hv
    refine ⟨hlt, fun tail => ?_⟩
    rw [parseLengthPrefixed, happ]
    exact if_pos hs
  | case6 size r' hv hs data fr hd hl =>  -- `size` bytes were there and parse
    intro h
    cases h
    obtain ⟨hlt, happ⟩ := readStreamVarint_ok _ _ _ _ _ _ hv
    have hle : size ≤ r'.length := by
      have : (List.take size r').length = size := by simpa [data] using hl
      rw [List.length_take] at this
      omega
    refine ⟨by simp only [List.length_drop]; omega, fun tail => ?_⟩
    rw [parseLengthPrefixed, happ]
    simp only
    rw [if_neg hs, List.take_append_of_le_length hle, hd, List.drop_append_of_le_length hle]
    exact if_neg hl
  | _ => intro h; cases h  -- end of input, or a raise

/-- The accumulator of the frame iterator is only a prefix of what it returns. -/
theorem restFrames_acc (fuel : Nat) : ∀ (b : Bytes) (acc : List Frame),
    restFrames fuel b acc = (acc ++ (restFrames fuel b []).1, (restFrames fuel b []).2) := by
  induction fuel with
  | zero => intro b acc; exact congrArg (·, none) (List.append_nil _).symm
  | succ fuel ih =>
    intro b acc
    unfold restFrames
    cases parseLengthPrefixed b with
    | eof => exact congrArg (·, none) (List.append_nil _).symm
    | err e => exact congrArg (·, some e) (List.append_nil _).symm
    | frame f rest =>
      dsimp only
      rw [ih rest (acc ++ [f]), ih rest ([] ++ [f]), List.append_assoc]
      rfl

/-- Each delivered frame costs at least one input byte. -/
theorem restFrames_length_le (fuel : Nat) (b : Bytes) (acc : List Frame) :
    (restFrames fuel b acc).1.length ≤ acc.length + b.length := by
  fun_induction restFrames fuel b acc with
  | case4 fuel b acc f rest hp ih =>  -- a frame was read
    have h1 := (parseLengthPrefixed_frame _ _ _ hp).1
    rw [List.length_append, List.length_singleton] at ih
    omega
  | _ => exact Nat.le_add_right _ _  -- the loop stops

theorem restFrames_append_prefix (fuel fuel' : Nat) (b' tail : Bytes) (acc : List Frame)
    (hf : b'.length < fuel) (hf' : (b' ++ tail).length < fuel') :
    (restFrames fuel b' acc).1 <+: (restFrames fuel' (b' ++ tail) acc).1 := by
  fun_induction restFrames fuel b' acc generalizing fuel' with
  | case1 => cases hf  -- out of fuel: excluded
  | case4 fuel b' acc f rest hp ih =>  -- a frame was read
    obtain ⟨h1, h2⟩ := parseLengthPrefixed_frame _ _ _ hp
    obtain _ | fuel' := fuel'
    · cases hf'
    rw [restFrames, h2 tail]
    rw [List.length_append] at hf'
    exact ih fuel' (by omega) (by rw [List.length_append]; omega)
  | _ => rw [restFrames_acc]; exact List.prefix_append _ _  -- the cut stream stops here

theorem restFrames_fuel (fuel fuel' : Nat) (b : Bytes) (acc : List Frame)
    (hf : b.length < fuel) (hf' : b.length < fuel') :
    restFrames fuel b acc = restFrames fuel' b acc := by
  fun_induction restFrames fuel b acc generalizing fuel' with
  | case1 => cases hf  -- out of fuel: excluded
  | case4 fuel b acc f rest hp ih =>  -- a frame was read
    have h1 := (parseLengthPrefixed_frame _ _ _ hp).1
    obtain _ | fuel' := fuel'
    · cases hf'
    rw [restFrames, hp]
    exact ih fuel' (by omega) (by omega)
  | case2 fuel b acc hp | case3 fuel b acc e hp =>  -- end of input | a raise
    obtain _ | fuel' := fuel'
    · cases hf'
    rw [restFrames, hp]

/-- The first-non-empty-frame search of `get_options_and_frames` finds the first non-empty frame of what the frame
    iterator delivers from the same bytes, and leaves the iterator the rest. -/
theorem firstNonEmpty_of_restFrames (fuel : Nat) : ∀ (b : Bytes) (fs : List Frame) (e : Option PyErr) (f : Frame)
    (skipped : List Frame), b.length < fuel → restFrames fuel b [] = (fs, e) →
    fs.find? (fun f => !f.rows.isEmpty) = some f →
    ∃ sk tail rest, fs = sk ++ f :: tail ∧ firstNonEmpty fuel b skipped = .ok (skipped ++ sk, f, rest) ∧
      restFrames (rest.length + 1) rest [] = (tail, e) := by
  induction fuel with
  | zero => intro b _ _ _ _ hf; cases hf
  | succ fuel ih =>
    intro b fs e f skipped hfuel h hf
    unfold restFrames at h
    unfold firstNonEmpty
    cases hp : parseLengthPrefixed b with
    | eof => rw [hp] at h; cases h; cases hf
    | err e' => rw [hp] at h; cases h; cases hf
    | frame f1 rest1 =>
      rw [hp] at h
      dsimp only at h ⊢
      rw [restFrames_acc] at h
      cases h
      have hlt : rest1.length < fuel := Nat.lt_of_lt_of_le (parseLengthPrefixed_frame _ _ _ hp).1 (Nat.le_of_lt_succ hfuel)
      by_cases he : f1.rows.isEmpty = true
      · rw [if_pos he]
        rw [List.nil_append, List.singleton_append, List.find?_cons_of_neg (by simp [he])] at hf
        obtain ⟨sk, tail, rest, hR, hfn, hrest⟩ := ih rest1 _ _ f (skipped ++ [f1]) hlt rfl hf
        refine ⟨f1 :: sk, tail, rest, ?_, ?_, hrest⟩
        · rw [List.nil_append, List.singleton_append, hR]; rfl
        · rw [hfn, List.append_assoc]; rfl
      · rw [if_neg he]
        rw [List.nil_append, List.singleton_append, List.find?_cons_of_pos (by simp [he])] at hf
        cases hf
        exact ⟨[], _, rest1, rfl, by rw [List.append_nil], restFrames_fuel _ _ _ _ (Nat.lt_succ_self _) hlt⟩

/-- A successful first-non-empty-frame search in a cut stream is the same successful search in the
    whole stream (same skipped frames, same first frame, cut rest), for any sufficient fuels. -/
theorem firstNonEmpty_append (fuel fuel' : Nat) (b' tail : Bytes) (skipped sk : List Frame)
    (f : Frame) (rest : Bytes)
    (hf : b'.length < fuel) (hf' : (b' ++ tail).length < fuel')
    (h : firstNonEmpty fuel b' skipped = .ok (sk, f, rest)) :
    firstNonEmpty fuel' (b' ++ tail) skipped = .ok (sk, f, rest ++ tail) := by
  revert h
  fun_induction firstNonEmpty fuel b' skipped generalizing fuel' with
  | case1 => cases hf  -- out of fuel: excluded
  | case4 fuel b' skipped f1 rest1 hp he ih =>  -- an empty frame: skipped
    intro h
    obtain ⟨h1, h2⟩ := parseLengthPrefixed_frame _ _ _ hp
    obtain _ | fuel' := fuel'
    · cases hf'
    rw [firstNonEmpty, h2 tail]
    rw [List.length_append] at hf'
    simp only [he, if_true]
    exact ih fuel' (by omega) (by rw [List.length_append]; omega) h
  | case5 fuel b' skipped f1 rest1 hp he =>  -- the first non-empty frame
    intro h
    cases h
    obtain _ | fuel' := fuel'
    · cases hf'
    rw [firstNonEmpty, (parseLengthPrefixed_frame _ _ _ hp).2 tail]
    simp only [he, Bool.false_eq_true, if_false]
  | _ => intro h; cases h  -- end of input, or a raise

theorem Opened.frames_append_prefix (opts : ParserOptions) (pending : List Frame) (rest tail : Bytes) :
    (Opened.frames { opts, pending, rest }).1 <+: (Opened.frames { opts, pending, rest := rest ++ tail }).1 := by
  unfold Opened.frames
  by_cases hd : opts.delimited = true
  · simp only [hd, if_true]
    apply (List.prefix_append_right_inj pending).2
    exact restFrames_append_prefix _ _ _ _ _ (by omega) (by omega)
  · simp [hd]

theorem getOptionsAndFrames_append (kind kind' : SourceKind) (b' tail : Bytes) (o : Opened)
    (hd : delimitedHint (kind.header b') = true) (hd' : delimitedHint (kind'.header (b' ++ tail)) = true)
    (h : getOptionsAndFrames kind b' = .ok o) :
    getOptionsAndFrames kind' (b' ++ tail) =
      .ok { opts := o.opts, pending := o.pending, rest := o.rest ++ tail } := by
  unfold getOptionsAndFrames at h ⊢
  simp only [hd, hd', if_true] at h ⊢
  cases hf : firstNonEmpty (b'.length + 1) b' [] with
  | error e => rw [hf] at h; cases h
  | ok r =>
    obtain ⟨sk, f, rest⟩ := r
    rw [hf] at h
    rw [firstNonEmpty_append _ _ _ tail _ _ _ _ (by omega) (by omega) hf]
    simp only at h ⊢
    cases ho : optionsFromFrame f true with
    | error e => rw [ho] at h; cases h
    | ok opts =>
      rw [ho] at h
      cases h
      rfl

theorem parseFlat_events_append (b₁ b₂ : Bytes) (hd₁ : delimitedHint (b₁.take 3) = true)
    (hd : delimitedHint ((b₁ ++ b₂).take 3) = true) (strict quoted : Bool) :
    (parseFlat .seekable b₁ strict quoted).events <+: (parseFlat .seekable (b₁ ++ b₂) strict quoted).events := by
  rw [parseFlat_eq, parseFlat_eq]
  cases hg : getOptionsAndFrames .seekable b₁ with
  | error e => exact List.nil_prefix
  | ok o =>
    rw [getOptionsAndFrames_append .seekable .seekable b₁ b₂ o hd₁ hd hg]
    obtain ⟨more, hmore⟩ := Opened.frames_append_prefix o.opts o.pending o.rest b₂
    dsimp only
    rw [← hmore, List.flatMap_append]
    exact decodeAll_events_prefix ..

end Jelly
