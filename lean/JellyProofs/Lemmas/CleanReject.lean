import JellyProofs.Lemmas.Pin
import JellyProofs.Lemmas.RowBracket
/-!
# Every change of a lookup table pins a key (C20)

While a row is open (pin tracking on) each table operation of the term encoder either leaves the
table exactly as it was or pins a key. Hence a statement body that ends with no pins at all has not
touched the tables: a rejection is either *clean* (the encoder is the one passed in with its row started) or it
leaves the encoder *broken* (`rowOpen` and some table has pins).
-/
namespace Jelly

def LookupEnc.tracked (e : LookupEnc) : Bool := e.lookup.pinned.isSome

/-- One step on one table: tracking stays on, pins are never dropped, and either nothing changed or
    the table has pins. -/
def LStep (e e' : LookupEnc) : Prop :=
  e.tracked = true →
    e'.tracked = true ∧ (e.hasPins = true → e'.hasPins = true) ∧ (e' = e ∨ e'.hasPins = true)

theorem LStep.refl (e : LookupEnc) : LStep e e := fun h => ⟨h, fun h => h, Or.inl rfl⟩

theorem LStep.trans {a b c : LookupEnc} (h₁ : LStep a b) (h₂ : LStep b c) : LStep a c := by
  intro ha
  obtain ⟨hb, m1, s1⟩ := h₁ ha
  obtain ⟨hc, m2, s2⟩ := h₂ hb
  refine ⟨hc, fun h => m2 (m1 h), ?_⟩
  rcases s2 with rfl | s2
  · exact s1
  · exact Or.inr s2

theorem LStep.of_pinned {e e' : LookupEnc} {k : String}
    (h : e'.lookup.pinned = e.lookup.pinned.map (k :: ·)) : LStep e e' := by
  intro ht
  unfold LookupEnc.tracked at ht ⊢
  unfold LookupEnc.hasPins
  cases hp : e.lookup.pinned with
  | none => rw [hp] at ht; simp at ht
  | some ps =>
    rw [hp] at h
    simp only [Option.map_some] at h
    rw [h]
    exact ⟨rfl, fun _ => rfl, Or.inr rfl⟩

/-! The five table operations: a success went through `moveToEnd` or `insert`, which pin the key, or returned the table
as it was. -/

theorem entryIndex_lstep {e e' : LookupEnc} {k : String} {oid : Option Nat}
    (h : e.entryIndex k = .ok (e', oid)) : LStep e e' := by
  revert h
  fun_cases LookupEnc.entryIndex e k <;> intro h <;> cases h
  · exact .of_pinned (k := k) (Lookup.moveToEnd_pinned ‹_›) -- hit
  · exact .of_pinned (k := k) (Lookup.insert_pinned ‹_›) -- miss, inserted

theorem termIndex_lstep {e e' : LookupEnc} {v : String} {i : Nat}
    (h : e.termIndex v = .ok (e', i)) : LStep e e' := by
  revert h
  fun_cases LookupEnc.termIndex e v <;> intro h <;> cases h
  exact .of_pinned (k := v) (Lookup.moveToEnd_pinned ‹_›) -- the key is there

theorem prefixTermIndex_lstep {e e' : LookupEnc} {v : String} {i : Nat}
    (h : e.prefixTermIndex v = .ok (e', i)) : LStep e e' := by
  revert h
  fun_cases LookupEnc.prefixTermIndex e v <;> intro h <;> cases h
  · exact .refl _ -- table disabled
  · exact .refl _ -- empty prefix, none sent yet
  -- whichever index is sent, the table is the one `termIndex` left
  all_goals exact termIndex_lstep ‹_›

theorem nameTermIndex_lstep {e e' : LookupEnc} {v : String} {i : Nat}
    (h : e.nameTermIndex v = .ok (e', i)) : LStep e e' := by
  unfold LookupEnc.nameTermIndex at h
  split at h
  · cases h
  · rename_i ht
    split at h <;> cases h <;> exact termIndex_lstep ht

theorem datatypeTermIndex_lstep {e e' : LookupEnc} {v : String} {i : Nat}
    (h : e.datatypeTermIndex v = .ok (e', i)) : LStep e e' := by
  unfold LookupEnc.datatypeTermIndex at h
  split at h
  · cases h; exact .refl _
  · exact termIndex_lstep h

def TermEnc.tracked (te : TermEnc) : Bool :=
  te.names.tracked && te.prefixes.tracked && te.datatypes.tracked

def TermEnc.anyPins (te : TermEnc) : Bool :=
  te.names.hasPins || te.prefixes.hasPins || te.datatypes.hasPins

theorem TermEnc.broken_eq (te : TermEnc) : te.broken = (te.rowOpen && te.anyPins) := rfl

/-- A stretch of the term encoder's work inside an open row: pin tracking stays on, `rowOpen` does not change, pins
    are never lost, and either nothing changed at all or some table now has a pin. -/
def TStep (te te' : TermEnc) : Prop :=
  te.tracked = true →
    te'.tracked = true ∧ te'.rowOpen = te.rowOpen ∧ (te.anyPins = true → te'.anyPins = true) ∧
      (te' = te ∨ te'.anyPins = true)

theorem TStep.refl (te : TermEnc) : TStep te te := fun h => ⟨h, rfl, fun h => h, Or.inl rfl⟩

theorem TStep.trans {a b c : TermEnc} (h₁ : TStep a b) (h₂ : TStep b c) : TStep a c := by
  intro ha
  obtain ⟨hb, r1, m1, s1⟩ := h₁ ha
  obtain ⟨hc, r2, m2, s2⟩ := h₂ hb
  refine ⟨hc, r2.trans r1, fun h => m2 (m1 h), ?_⟩
  rcases s2 with rfl | s2
  · exact s1
  · exact Or.inr s2

/-- The tables one by one: nothing but them (and never `rowOpen`) changes inside a row. -/
theorem TStep.of_lsteps {te te' : TermEnc} (hr : te'.rowOpen = te.rowOpen) (hn : LStep te.names te'.names)
    (hp : LStep te.prefixes te'.prefixes) (hd : LStep te.datatypes te'.datatypes) : TStep te te' := by
  intro ht
  simp only [TermEnc.tracked, Bool.and_eq_true] at ht
  obtain ⟨tn, mn, sn⟩ := hn ht.1.1
  obtain ⟨tp, mp, sp⟩ := hp ht.1.2
  obtain ⟨td, md, sd⟩ := hd ht.2
  simp only [TermEnc.tracked, TermEnc.anyPins, Bool.and_eq_true, Bool.or_eq_true]
  refine ⟨⟨⟨tn, tp⟩, td⟩, hr, Or.imp (Or.imp mn mp) md, ?_⟩
  rcases sn with sn | sn
  · rcases sp with sp | sp
    · rcases sd with sd | sd
      · left
        obtain ⟨n, p, d, o⟩ := te'
        simp only at hr sn sp sd
        rw [hr, sn, sp, sd]
      · exact .inr (.inr sd)
    · exact .inr (.inl (.inr sp))
  · exact .inr (.inl (.inl sn))

theorem TStep.names {te : TermEnc} {e : LookupEnc} (h : LStep te.names e) :
    TStep te { te with names := e } :=
  .of_lsteps rfl h (.refl _) (.refl _)

theorem TStep.prefixes {te : TermEnc} {e : LookupEnc} (h : LStep te.prefixes e) :
    TStep te { te with prefixes := e } :=
  .of_lsteps rfl (.refl _) h (.refl _)

theorem TStep.datatypes {te : TermEnc} {e : LookupEnc} (h : LStep te.datatypes e) :
    TStep te { te with datatypes := e } :=
  .of_lsteps rfl (.refl _) (.refl _) h

/-! ## Term encoder operations

Stated for whatever the call returns, `f te … = (te', r)`: `te'` after a refusal is what the file is about. Each is
the chain of the table steps up to the point where the call returned. -/

theorem TStep.of_iriIndices {te te' : TermEnc} {iri : String} {r : Except PyErr (List Row × Nat × Nat)}
    (h : te.iriIndices iri = (te', r)) : TStep te te' := by
  -- the prefix entry, when the prefix table is enabled
  have pfx : ∀ {pe pEntry} (p : String), (if (te.prefixes.lookup.maxSize != 0) = true then te.prefixes.entryIndex p
      else .ok (te.prefixes, none)) = .ok (pe, pEntry) → TStep te { te with prefixes := pe } := by
    intro pe pEntry p hpe
    split at hpe
    · exact .prefixes (entryIndex_lstep hpe)
    · cases hpe; exact .refl _
  revert h
  fun_cases TermEnc.iriIndices te iri <;> intro h <;> rw [← (Prod.mk.inj h).1]
  · exact .refl _ -- prefix entry refused
  · exact pfx _ ‹_› -- name entry refused
  · exact (pfx _ ‹_›).trans (.names (entryIndex_lstep ‹_›)) -- prefix index raised
  · exact ((pfx _ ‹_›).trans (.names (entryIndex_lstep ‹_›))).trans
      (.prefixes (prefixTermIndex_lstep ‹_›)) -- name index raised
  · exact (((pfx _ ‹_›).trans (.names (entryIndex_lstep ‹_›))).trans
      (.prefixes (prefixTermIndex_lstep ‹_›))).trans (.names (nameTermIndex_lstep ‹_›)) -- encoded

theorem TStep.of_literal {te te' : TermEnc} {lang dt : Option String} {r : Except PyErr (List Row × WLitKind)}
    (h : te.literal lang dt = (te', r)) : TStep te te' := by
  revert h
  fun_cases TermEnc.literal te lang dt <;> intro h <;> rw [← (Prod.mk.inj h).1]
  case case3 => exact .datatypes (entryIndex_lstep ‹te.datatypes.entryIndex _ = .ok _›) -- datatype index raised
  case case4 => -- datatype encoded
    rename_i de _ hde _ _ _ _ hdt
    exact (TStep.datatypes (entryIndex_lstep hde)).trans
      (.datatypes (te := { te with datatypes := de }) (datatypeTermIndex_lstep hdt))
  all_goals exact .refl _

theorem TStep.of_spo {t : Term} : ∀ {te te' : TermEnc} {r : Except PyErr (List Row × WTerm)},
    te.spo t = (te', r) → TStep te te' := by
  intro te
  fun_induction TermEnc.spo te t <;> intro te' r h <;> rw [← (Prod.mk.inj h).1]
  case case1 | case2 => exact .of_iriIndices ‹_› -- IRI: raised, encoded
  case case3 | case4 => exact .of_literal ‹_› -- literal: raised, encoded
  case case6 ih => exact ih ‹_› -- quoted: subject raised
  case case7 ih1 ih2 => exact (ih1 ‹_›).trans (ih2 ‹_›) -- quoted: predicate raised
  case case8 ih1 ih2 ih3 | case9 ih1 ih2 ih3 => -- quoted: object raised, encoded
    exact ((ih1 ‹_›).trans (ih2 ‹_›)).trans (ih3 ‹_›)
  all_goals exact .refl _ -- blank node; not a term of a triple

theorem TStep.of_graph {t : Term} {te te' : TermEnc} {r : Except PyErr (List Row × WTerm)}
    (h : te.graph t = (te', r)) : TStep te te' := by
  -- on IRIs and literals `encode_graph` is `encode_spo`, by unfolding
  cases t with
  | iri s => exact .of_spo (t := .iri s) h
  | lit lex lang dt => exact .of_spo (t := .lit lex lang dt) h
  | bnode b => cases h; exact .refl _
  | quoted s p o => cases h; exact .refl _
  | defaultGraph => cases h; exact .refl _
  | unsupported => cases h; exact .refl _

theorem TStep.of_encSlot {enc : TermEnc → Term → Res TermEnc (List Row × WTerm)}
    (henc : ∀ {t te te' r}, enc te t = (te', r) → TStep te te') {te te' : TermEnc} {prev rs : Option Term}
    {t : Term} {r : Except PyErr (List Row × Option WTerm)} (h : encSlot enc te prev t = (te', rs, r)) :
    TStep te te' := by
  unfold encSlot at h
  split at h
  · cases h; exact .refl _
  · rcases he : enc te t with ⟨te1, e | ⟨rows, w⟩⟩ <;> simp only [he] at h <;> cases h <;> exact henc he

theorem TStep.of_tripleBody {exc : PyErr} {st st' : EncState} {terms : List Term} {r : Except PyErr (List Row)}
    (h : encodeTripleBody exc st terms = (st', r)) : TStep st.te st'.te := by
  have slot := @TStep.of_encSlot _ @TStep.of_spo
  revert h
  fun_cases encodeTripleBody exc st terms <;> intro h <;> rw [← (Prod.mk.inj h).1]
  · exact .refl _ -- no term
  · exact slot ‹_› -- slot 1 raised
  · exact slot ‹_› -- one term only
  · exact (slot ‹_›).trans (slot ‹_›) -- slot 2 raised
  · exact (slot ‹_›).trans (slot ‹_›) -- two terms only
  · exact ((slot ‹_›).trans (slot ‹_›)).trans (slot ‹_›) -- slot 3 raised
  · exact ((slot ‹_›).trans (slot ‹_›)).trans (slot ‹_›) -- encoded

theorem TStep.of_quadBody {exc : PyErr} {st st' : EncState} {terms : List Term} {r : Except PyErr (List Row)}
    (h : encodeQuadBody exc st terms = (st', r)) : TStep st.te st'.te := by
  have slot := @TStep.of_encSlot _ @TStep.of_spo
  have gslot := @TStep.of_encSlot _ @TStep.of_graph
  revert h
  fun_cases encodeQuadBody exc st terms <;> intro h <;> rw [← (Prod.mk.inj h).1]
  · exact .refl _ -- no term
  · exact slot ‹_› -- slot 1 raised
  · exact slot ‹_› -- one term only
  · exact (slot ‹_›).trans (slot ‹_›) -- slot 2 raised
  · exact (slot ‹_›).trans (slot ‹_›) -- two terms only
  · exact ((slot ‹_›).trans (slot ‹_›)).trans (slot ‹_›) -- slot 3 raised
  · exact ((slot ‹_›).trans (slot ‹_›)).trans (slot ‹_›) -- three terms only
  · exact (((slot ‹_›).trans (slot ‹_›)).trans (slot ‹_›)).trans (gslot ‹_›) -- graph slot raised
  · exact (((slot ‹_›).trans (slot ‹_›)).trans (slot ‹_›)).trans (gslot ‹_›) -- encoded

theorem TermEnc.startRow_tracked (te : TermEnc) : te.startRow.tracked = true := rfl

theorem TermEnc.startRow_anyPins (te : TermEnc) : te.startRow.anyPins = false := rfl

theorem TermEnc.startRow_not_broken (te : TermEnc) : te.startRow.broken = false := rfl

/-- What a started row looks like afterwards: either the encoder is exactly the started one, or it is
    broken. -/
theorem TStep.from_startRow {te te' : TermEnc} (h : TStep te.startRow te') :
    te' = te.startRow ∨ te'.broken = true := by
  obtain ⟨_, hr, _, hs⟩ := h (TermEnc.startRow_tracked te)
  rcases hs with hs | hs
  · exact Or.inl hs
  · right
    rw [TermEnc.broken_eq, hr, hs]
    rfl

/-- A rejected row: the encoder state is the one before the call with its row started (clean), or the
    encoder is broken (dirty). -/
theorem rowBracket_err_clean_or_broken {body : EncState → Res EncState (List Row)}
    (hbody : ∀ {st st' r}, body st = (st', r) → TStep st.te st'.te) {st st' : EncState} {e : PyErr}
    (h : rowBracket body st = (st', .error e)) (hnb : st.te.broken = false) :
    st' = { st with te := st.te.startRow } ∨ st'.te.broken = true := by
  rcases rowBracket_err_inv h with ⟨hb, _⟩ | ⟨_, st1, hb, rfl⟩
  · rw [hnb] at hb; exact absurd hb (by simp)
  · rcases (hbody hb).from_startRow with hs | hs
    · left
      rw [hs]
    · exact Or.inr hs

theorem encodeTriple_err_clean_or_broken {exc : PyErr} {st st' : EncState} {terms : List Term} {e : PyErr}
    (h : encodeTriple exc st terms = (st', .error e)) (hnb : st.te.broken = false) :
    st' = { st with te := st.te.startRow } ∨ st'.te.broken = true :=
  rowBracket_err_clean_or_broken .of_tripleBody h hnb

theorem encodeQuad_err_clean_or_broken {exc : PyErr} {st st' : EncState} {terms : List Term} {e : PyErr}
    (h : encodeQuad exc st terms = (st', .error e)) (hnb : st.te.broken = false) :
    st' = { st with te := st.te.startRow } ∨ st'.te.broken = true :=
  rowBracket_err_clean_or_broken .of_quadBody h hnb

end Jelly
