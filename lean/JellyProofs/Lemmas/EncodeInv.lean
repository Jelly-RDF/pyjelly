import JellyModel.Encode
/-!
# The term and statement encoders read as relations

`TermEnc.iriIndices`, `TermEnc.literal`, `TermEnc.spo`, `TermEnc.graph`, `encSlot` and the two statement bodies
are nested matches over their sub-calls. Each gets one inversion lemma "the call succeeded, so these sub-calls did,
and this came back" (`*_ok_inv`, `encSlot_inv`). `iriIndices` and `literal` also get the equations in the other
direction, one per path ("these sub-calls returned this, so the call returns that"), and the statement bodies get them
from the three slots (`*_of_slots`, `SpoSlotsErr.bodies`); `spo`, `graph` and `encSlot` have none. With these no proof
about the writer has to unfold and split the encoders again.
-/
namespace Jelly

def nameEntryRows (oid : Option Nat) (k : String) : List Row :=
  match oid with | some id => [Row.nameEntry id k] | none => []
def prefixEntryRows (oid : Option Nat) (k : String) : List Row :=
  match oid with | some id => [Row.prefixEntry id k] | none => []
def dtEntryRows (oid : Option Nat) (k : String) : List Row :=
  match oid with | some id => [Row.dtEntry id k] | none => []

theorem mem_entryRows {r : Row} {oid : Option Nat} {k : String}
    (h : r ∈ nameEntryRows oid k ∨ r ∈ prefixEntryRows oid k ∨ r ∈ dtEntryRows oid k) :
    ∃ id, oid = some id ∧ (r = .nameEntry id k ∨ r = .prefixEntry id k ∨ r = .dtEntry id k) := by
  cases oid with
  | none => simp [nameEntryRows, prefixEntryRows, dtEntryRows] at h
  | some id => exact ⟨id, rfl, by simpa [nameEntryRows, prefixEntryRows, dtEntryRows] using h⟩

theorem splitIriChars_append (cs : List Char) : (splitIriChars cs).1 ++ (splitIriChars cs).2 = cs := by
  unfold splitIriChars
  split
  · simp
  · split <;> simp

theorem splitIri_append (s : String) : (splitIri s).1 ++ (splitIri s).2 = s := by
  unfold splitIri
  simp only
  rw [← String.ofList_append, splitIriChars_append, String.ofList_toList]

theorem iriIndices_eq_noprefix {te : TermEnc} {iri : String}
    (h : te.prefixes.lookup.maxSize = 0) {ne1 ne2 : LookupEnc} {noid nid}
    (hne : te.names.entryIndex iri = .ok (ne1, noid)) (hnt : ne1.nameTermIndex iri = .ok (ne2, nid)) :
    te.iriIndices iri = ({ te with names := ne2 }, .ok (nameEntryRows noid iri, 0, nid)) := by
  have hb : (te.prefixes.lookup.maxSize != 0) = false := by simp [h]
  have hpt : te.prefixes.prefixTermIndex (splitIri iri).fst = .ok (te.prefixes, 0) := by
    simp [LookupEnc.prefixTermIndex, h]
  unfold TermEnc.iriIndices
  simp only [hb, Bool.false_eq_true, if_false, hne, hpt, hnt, nameEntryRows, List.nil_append]
  cases noid <;> rfl

theorem iriIndices_eq_prefix {te : TermEnc} {iri : String}
    (h : te.prefixes.lookup.maxSize ≠ 0) {pe1 pe2 ne1 ne2 : LookupEnc} {poid pid noid nid}
    (hpe : te.prefixes.entryIndex (splitIri iri).1 = .ok (pe1, poid))
    (hne : te.names.entryIndex (splitIri iri).2 = .ok (ne1, noid))
    (hpt : pe1.prefixTermIndex (splitIri iri).1 = .ok (pe2, pid))
    (hnt : ne1.nameTermIndex (splitIri iri).2 = .ok (ne2, nid)) :
    te.iriIndices iri = ({ te with names := ne2, prefixes := pe2 },
      .ok (prefixEntryRows poid (splitIri iri).1 ++ nameEntryRows noid (splitIri iri).2, pid, nid)) := by
  have hb : (te.prefixes.lookup.maxSize != 0) = true := by simp [h]
  unfold TermEnc.iriIndices
  simp only [hb, if_true, hpe, hne, hpt, hnt, nameEntryRows, prefixEntryRows]
  cases noid <;> cases poid <;> rfl

theorem iriIndices_err_noprefix {te : TermEnc} {iri : String}
    (h : te.prefixes.lookup.maxSize = 0) {err : PyErr}
    (hne : te.names.entryIndex iri = .error err) :
    te.iriIndices iri = (te, .error err) := by
  have hb : (te.prefixes.lookup.maxSize != 0) = false := by simp [h]
  unfold TermEnc.iriIndices
  simp only [hb, Bool.false_eq_true, if_false, hne]

theorem iriIndices_err_prefix1 {te : TermEnc} {iri : String}
    (h : te.prefixes.lookup.maxSize ≠ 0) {err : PyErr}
    (hpe : te.prefixes.entryIndex (splitIri iri).1 = .error err) :
    te.iriIndices iri = (te, .error err) := by
  have hb : (te.prefixes.lookup.maxSize != 0) = true := by simp [h]
  unfold TermEnc.iriIndices
  simp only [hb, if_true, hpe]

theorem iriIndices_err_prefix2 {te : TermEnc} {iri : String}
    (h : te.prefixes.lookup.maxSize ≠ 0) {pe1 : LookupEnc} {poid} {err : PyErr}
    (hpe : te.prefixes.entryIndex (splitIri iri).1 = .ok (pe1, poid))
    (hne : te.names.entryIndex (splitIri iri).2 = .error err) :
    te.iriIndices iri = ({ te with prefixes := pe1 }, .error err) := by
  have hb : (te.prefixes.lookup.maxSize != 0) = true := by simp [h]
  unfold TermEnc.iriIndices
  simp only [hb, if_true, hpe, hne]

/-- A successful `iriIndices` is an entry call and a reference call on the name table and, when the prefix
    table is enabled, the same pair on the prefix table. -/
theorem TermEnc.iriIndices_ok_inv {te te' : TermEnc} {iri : String} {rows : List Row} {p n : Nat}
    (h : te.iriIndices iri = (te', .ok (rows, p, n))) :
    (te.prefixes.lookup.maxSize = 0 ∧ p = 0 ∧ ∃ ne1 noid ne2, te.names.entryIndex iri = .ok (ne1, noid) ∧
      ne1.nameTermIndex iri = .ok (ne2, n) ∧ te' = { te with names := ne2 } ∧ rows = nameEntryRows noid iri) ∨
    (te.prefixes.lookup.maxSize ≠ 0 ∧ ∃ pe1 poid ne1 noid pe2 ne2,
      te.prefixes.entryIndex (splitIri iri).1 = .ok (pe1, poid) ∧
      te.names.entryIndex (splitIri iri).2 = .ok (ne1, noid) ∧
      pe1.prefixTermIndex (splitIri iri).1 = .ok (pe2, p) ∧ ne1.nameTermIndex (splitIri iri).2 = .ok (ne2, n) ∧
      te' = { te with names := ne2, prefixes := pe2 } ∧
      rows = prefixEntryRows poid (splitIri iri).1 ++ nameEntryRows noid (splitIri iri).2) := by
  by_cases hup : te.prefixes.lookup.maxSize = 0
  · left
    rcases hne : te.names.entryIndex iri with e | ⟨ne1, noid⟩
    · rw [iriIndices_err_noprefix hup hne] at h; simp at h
    rcases hnt : ne1.nameTermIndex iri with e | ⟨ne2, nid⟩
    · have hb : (te.prefixes.lookup.maxSize != 0) = false := by simp [hup]
      have hpt : te.prefixes.prefixTermIndex (splitIri iri).fst = .ok (te.prefixes, 0) := by
        simp [LookupEnc.prefixTermIndex, hup]
      simp [TermEnc.iriIndices, hb, hne, hpt, hnt] at h
    rw [iriIndices_eq_noprefix hup hne hnt] at h
    simp only [Prod.mk.injEq, Except.ok.injEq] at h
    obtain ⟨rfl, rfl, rfl, rfl⟩ := h
    exact ⟨hup, rfl, ne1, noid, ne2, rfl, hnt, rfl, rfl⟩
  · right
    have hb : (te.prefixes.lookup.maxSize != 0) = true := by simp [hup]
    rcases hpe : te.prefixes.entryIndex (splitIri iri).1 with e | ⟨pe1, poid⟩
    · rw [iriIndices_err_prefix1 hup hpe] at h; simp at h
    rcases hne : te.names.entryIndex (splitIri iri).2 with e | ⟨ne1, noid⟩
    · rw [iriIndices_err_prefix2 hup hpe hne] at h; simp at h
    rcases hpt : pe1.prefixTermIndex (splitIri iri).1 with e | ⟨pe2, pid⟩
    · simp [TermEnc.iriIndices, hb, hpe, hne, hpt] at h
    rcases hnt : ne1.nameTermIndex (splitIri iri).2 with e | ⟨ne2, nid⟩
    · simp [TermEnc.iriIndices, hb, hpe, hne, hpt, hnt] at h
    rw [iriIndices_eq_prefix hup hpe hne hpt hnt] at h
    simp only [Prod.mk.injEq, Except.ok.injEq] at h
    obtain ⟨rfl, rfl, rfl, rfl⟩ := h
    exact ⟨hup, pe1, poid, ne1, noid, pe2, ne2, rfl, rfl, hpt, hnt, rfl, rfl⟩

/-- The literal kind of a literal without a datatype that needs the datatype table. -/
def litLangKind (lang : Option String) : WLitKind :=
  match lang with
  | some l => if l != "" then .lang l else .plain
  | none => .plain

/-- The datatype needs an entry of the datatype table (it is neither absent, nor empty, nor `xsd:string`). -/
def realDatatype (dt : Option String) : Bool :=
  match dt with
  | some d => d != "" && d != XSD_STRING
  | none => false

theorem TermEnc.literal_plain (te : TermEnc) (lang : Option String) {dt : Option String}
    (h : realDatatype dt = false) : te.literal lang dt = (te, .ok ([], litLangKind lang)) := by
  cases dt with
  | none => cases lang <;> rfl
  | some d =>
    have : (d != "" && d != XSD_STRING) = false := h
    simp only [TermEnc.literal, this, Bool.false_eq_true, if_false]
    cases lang <;> rfl

theorem TermEnc.literal_disabled (te : TermEnc) (lang : Option String) {d : String}
    (h : realDatatype (some d) = true) (h0 : te.datatypes.lookup.maxSize = 0) :
    te.literal lang (some d) = (te, .error .conformance) := by
  have : (d != "" && d != XSD_STRING) = true := h
  have hm : (te.datatypes.lookup.maxSize == 0) = true := by simp [h0]
  simp only [TermEnc.literal, this, if_true, hm]

theorem TermEnc.literal_entry_err (te : TermEnc) (lang : Option String) {d : String} {e : PyErr}
    (h : realDatatype (some d) = true) (h0 : te.datatypes.lookup.maxSize ≠ 0)
    (hde : te.datatypes.entryIndex d = .error e) : te.literal lang (some d) = (te, .error e) := by
  have : (d != "" && d != XSD_STRING) = true := h
  have hm : (te.datatypes.lookup.maxSize == 0) = false := by simpa using h0
  simp only [TermEnc.literal, this, if_true, hm, hde]
  rfl

theorem TermEnc.literal_typed (te : TermEnc) (lang : Option String) {d : String} {de1 de2 : LookupEnc} {doid did}
    (h : realDatatype (some d) = true) (h0 : te.datatypes.lookup.maxSize ≠ 0)
    (hde : te.datatypes.entryIndex d = .ok (de1, doid)) (hdt : de1.datatypeTermIndex d = .ok (de2, did))
    (hid : did ≠ 0) :
    te.literal lang (some d) = ({ te with datatypes := de2 }, .ok (dtEntryRows doid d, .dt did)) := by
  have : (d != "" && d != XSD_STRING) = true := h
  have hm : (te.datatypes.lookup.maxSize == 0) = false := by simpa using h0
  have hid' : (did != 0) = true := by simpa using hid
  simp only [TermEnc.literal, this, if_true, hm, hde, hdt, hid', dtEntryRows]
  cases doid <;> rfl

/-- A successful `literal`: nothing happened, or an entry call and a reference call on the datatype table. -/
theorem TermEnc.literal_ok_inv {te te' : TermEnc} {lang dt : Option String} {rows : List Row} {kind : WLitKind}
    (h : te.literal lang dt = (te', .ok (rows, kind))) :
    (realDatatype dt = false ∧ te' = te ∧ rows = [] ∧ kind = litLangKind lang) ∨
    (∃ d de1 doid de2 did, dt = some d ∧ realDatatype dt = true ∧ te.datatypes.lookup.maxSize ≠ 0 ∧
      te.datatypes.entryIndex d = .ok (de1, doid) ∧ de1.datatypeTermIndex d = .ok (de2, did) ∧
      te' = { te with datatypes := de2 } ∧ rows = dtEntryRows doid d ∧
      kind = if did != 0 then .dt did else litLangKind lang) := by
  cases hr : realDatatype dt with
  | false =>
    rw [TermEnc.literal_plain te lang hr] at h
    simp only [Prod.mk.injEq, Except.ok.injEq] at h
    obtain ⟨rfl, rfl, rfl⟩ := h
    exact Or.inl ⟨rfl, rfl, rfl, rfl⟩
  | true =>
    right
    cases dt with
    | none => cases hr
    | some d =>
      have hc : (d != "" && d != XSD_STRING) = true := hr
      by_cases h0 : te.datatypes.lookup.maxSize = 0
      · rw [TermEnc.literal_disabled te lang hr h0] at h; simp at h
      have hm : (te.datatypes.lookup.maxSize == 0) = false := by simpa using h0
      rcases hde : te.datatypes.entryIndex d with e | ⟨de1, doid⟩
      · rw [TermEnc.literal_entry_err te lang hr h0 hde] at h; simp at h
      rcases hdt : de1.datatypeTermIndex d with e | ⟨de2, did⟩
      · simp [TermEnc.literal, hc, hm, hde, hdt] at h
      simp only [TermEnc.literal, hc, if_true, hm, Bool.false_eq_true, if_false, hde, hdt, Prod.mk.injEq,
        Except.ok.injEq] at h
      obtain ⟨rfl, hrows, hk⟩ := h
      refine ⟨d, de1, doid, de2, did, rfl, rfl, h0, hde, hdt, rfl, ?_, ?_⟩
      · rw [← hrows]; cases doid <;> rfl
      · rw [← hk]; cases lang <;> rfl

theorem TermEnc.spo_ok_inv {te te' : TermEnc} {t : Term} {rows : List Row} {w : WTerm}
    (h : te.spo t = (te', .ok (rows, w))) :
    match t with
    | .iri s => ∃ p n, te.iriIndices s = (te', .ok (rows, p, n)) ∧ w = .iri p n
    | .lit lex lang dt => ∃ k, te.literal lang dt = (te', .ok (rows, k)) ∧ w = .literal lex k
    | .bnode b => te' = te ∧ rows = [] ∧ w = .bnode b
    | .quoted s p o => ∃ te1 te2 r1 r2 r3 ws wp wo, te.spo s = (te1, .ok (r1, ws)) ∧
        te1.spo p = (te2, .ok (r2, wp)) ∧ te2.spo o = (te', .ok (r3, wo)) ∧ rows = r1 ++ r2 ++ r3 ∧
        w = .triple (some ws) (some wp) (some wo)
    | .defaultGraph => False
    | .unsupported => False := by
  cases t with
  | iri s =>
    rcases hi : te.iriIndices s with ⟨te1, e | ⟨r, p, n⟩⟩
    · simp [TermEnc.spo, hi] at h
    · simp only [TermEnc.spo, hi, Prod.mk.injEq, Except.ok.injEq] at h
      obtain ⟨rfl, rfl, rfl⟩ := h
      exact ⟨p, n, hi, rfl⟩
  | lit lex lang dt =>
    rcases hl : te.literal lang dt with ⟨te1, e | ⟨r, k⟩⟩
    · simp [TermEnc.spo, hl] at h
    · simp only [TermEnc.spo, hl, Prod.mk.injEq, Except.ok.injEq] at h
      obtain ⟨rfl, rfl, rfl⟩ := h
      exact ⟨k, hl, rfl⟩
  | bnode b =>
    simp only [TermEnc.spo, Prod.mk.injEq, Except.ok.injEq] at h
    obtain ⟨rfl, rfl, rfl⟩ := h
    exact ⟨rfl, rfl, rfl⟩
  | quoted s p o =>
    rcases h1 : te.spo s with ⟨te1, e | ⟨r1, ws⟩⟩
    · simp [TermEnc.spo, h1] at h
    rcases h2 : te1.spo p with ⟨te2, e | ⟨r2, wp⟩⟩
    · simp [TermEnc.spo, h1, h2] at h
    rcases h3 : te2.spo o with ⟨te3, e | ⟨r3, wo⟩⟩
    · simp [TermEnc.spo, h1, h2, h3] at h
    simp only [TermEnc.spo, h1, h2, h3, Prod.mk.injEq, Except.ok.injEq] at h
    obtain ⟨rfl, rfl, rfl⟩ := h
    exact ⟨te1, te2, r1, r2, r3, ws, wp, wo, h1, h2, h3, rfl, rfl⟩
  | defaultGraph => simp [TermEnc.spo] at h
  | unsupported => simp [TermEnc.spo] at h

theorem TermEnc.graph_ok_inv {te te' : TermEnc} {t : Term} {rows : List Row} {w : WTerm}
    (h : te.graph t = (te', .ok (rows, w))) :
    match t with
    | .iri s => ∃ p n, te.iriIndices s = (te', .ok (rows, p, n)) ∧ w = .iri p n
    | .lit lex lang dt => ∃ k, te.literal lang dt = (te', .ok (rows, k)) ∧ w = .literal lex k
    | .bnode b => te' = te ∧ rows = [] ∧ w = .bnode b
    | .defaultGraph => te' = te ∧ rows = [] ∧ w = .defaultGraph
    | .quoted _ _ _ => False
    | .unsupported => False := by
  cases t with
  | iri s =>
    rcases hi : te.iriIndices s with ⟨te1, e | ⟨r, p, n⟩⟩
    · simp [TermEnc.graph, hi] at h
    · simp only [TermEnc.graph, hi, Prod.mk.injEq, Except.ok.injEq] at h
      obtain ⟨rfl, rfl, rfl⟩ := h
      exact ⟨p, n, hi, rfl⟩
  | lit lex lang dt =>
    rcases hl : te.literal lang dt with ⟨te1, e | ⟨r, k⟩⟩
    · simp [TermEnc.graph, hl] at h
    · simp only [TermEnc.graph, hl, Prod.mk.injEq, Except.ok.injEq] at h
      obtain ⟨rfl, rfl, rfl⟩ := h
      exact ⟨k, hl, rfl⟩
  | bnode b =>
    simp only [TermEnc.graph, Prod.mk.injEq, Except.ok.injEq] at h
    obtain ⟨rfl, rfl, rfl⟩ := h
    exact ⟨rfl, rfl, rfl⟩
  | defaultGraph =>
    simp only [TermEnc.graph, Prod.mk.injEq, Except.ok.injEq] at h
    obtain ⟨rfl, rfl, rfl⟩ := h
    exact ⟨rfl, rfl, rfl⟩
  | quoted s p o => simp [TermEnc.graph] at h
  | unsupported => simp [TermEnc.graph] at h

theorem encSlot_inv {enc : TermEnc → Term → Res TermEnc (List Row × WTerm)} {te te' : TermEnc}
    {prev rs : Option Term} {t : Term} {rows : List Row} {ow : Option WTerm}
    (h : encSlot enc te prev t = (te', rs, .ok (rows, ow))) :
    (prev = some t ∧ te' = te ∧ rows = [] ∧ ow = none) ∨
    (prev ≠ some t ∧ ∃ w, ow = some w ∧ enc te t = (te', .ok (rows, w))) := by
  by_cases hp : prev = some t
  · left
    have : (prev == some t) = true := by simp [hp]
    simp only [encSlot, this, if_true, Prod.mk.injEq, Except.ok.injEq] at h
    obtain ⟨rfl, _, rfl, rfl⟩ := h
    exact ⟨hp, rfl, rfl, rfl⟩
  · right
    have : (prev == some t) = false := by simpa using hp
    rcases he : enc te t with ⟨te1, (e | ⟨r, w⟩)⟩
    · simp [encSlot, this, he] at h
    · simp only [encSlot, this, he, Bool.false_eq_true, if_false, Prod.mk.injEq, Except.ok.injEq] at h
      obtain ⟨rfl, _, rfl, rfl⟩ := h
      exact ⟨hp, w, rfl, rfl⟩

/-- Three successful subject/predicate/object slots in a row, as both statement bodies start: the encoder
    state and the repeated terms afterwards, the rows written, the three wire terms. -/
def SpoSlots (te : TermEnc) (rep : Repeated) (s p o : Term) (te' : TermEnc) (rep' : Repeated)
    (rows : List Row) (ws wp wo : Option WTerm) : Prop :=
  ∃ te1 rs r1 te2 rp r2 ro r3,
    encSlot TermEnc.spo te rep.s s = (te1, rs, .ok (r1, ws)) ∧
    encSlot TermEnc.spo te1 rep.p p = (te2, rp, .ok (r2, wp)) ∧
    encSlot TermEnc.spo te2 rep.o o = (te', ro, .ok (r3, wo)) ∧
    rep' = { rep with s := rs, p := rp, o := ro } ∧ rows = r1 ++ r2 ++ r3

/-- One of the three subject/predicate/object slots raises, those before it having succeeded: both statement bodies
    then raise (`SpoSlotsErr.bodies`). -/
def SpoSlotsErr (te : TermEnc) (rep : Repeated) (s p o : Term) : Prop :=
  (∃ te1 pv e, encSlot TermEnc.spo te rep.s s = (te1, pv, .error e)) ∨
  (∃ te1 rs r1 ws te2 pv e, encSlot TermEnc.spo te rep.s s = (te1, rs, .ok (r1, ws)) ∧
      encSlot TermEnc.spo te1 rep.p p = (te2, pv, .error e)) ∨
  (∃ te1 rs r1 ws te2 rp r2 wp te3 pv e, encSlot TermEnc.spo te rep.s s = (te1, rs, .ok (r1, ws)) ∧
      encSlot TermEnc.spo te1 rep.p p = (te2, rp, .ok (r2, wp)) ∧
      encSlot TermEnc.spo te2 rep.o o = (te3, pv, .error e))

theorem encodeTripleBody_of_slots {exc : PyErr} {st : EncState} {s p o : Term} {rest : List Term} {te3 : TermEnc}
    {rep3 : Repeated} {r : List Row} {ws wp wo : Option WTerm}
    (h : SpoSlots st.te st.rep s p o te3 rep3 r ws wp wo) :
    encodeTripleBody exc st (s :: p :: o :: rest) = ({ te := te3, rep := rep3 }, .ok (r ++ [Row.triple ws wp wo])) := by
  obtain ⟨te1, rs, r1, te2, rp, r2, ro, r3, h1, h2, h3, rfl, rfl⟩ := h
  unfold encodeTripleBody
  simp only [h1, h2, h3]

theorem encodeQuadBody_of_slots {exc : PyErr} {st : EncState} {s p o g : Term} {rest : List Term} {te3 : TermEnc}
    {rep3 : Repeated} {r : List Row} {ws wp wo : Option WTerm}
    (h : SpoSlots st.te st.rep s p o te3 rep3 r ws wp wo) :
    encodeQuadBody exc st (s :: p :: o :: g :: rest) =
      match encSlot TermEnc.graph te3 rep3.g g with
      | (te4, _, .error e) => ({ te := te4, rep := rep3 }, .error e)
      | (te4, rg, .ok (r4, wg)) =>
        ({ te := te4, rep := { rep3 with g := rg } }, .ok (r ++ r4 ++ [Row.quad ws wp wo wg])) := by
  obtain ⟨te1, rs, r1, te2, rp, r2, ro, r3, h1, h2, h3, rfl, rfl⟩ := h
  unfold encodeQuadBody
  simp only [h1, h2, h3]
  rcases encSlot TermEnc.graph te3 st.rep.g g with ⟨te4, rg, e | ⟨r4, wg⟩⟩ <;> rfl

theorem SpoSlotsErr.bodies {st : EncState} {s p o : Term} (h : SpoSlotsErr st.te st.rep s p o) (exc : PyErr)
    (rest : List Term) :
    (∃ st' e, encodeTripleBody exc st (s :: p :: o :: rest) = (st', .error e)) ∧
    (∃ st' e, encodeQuadBody exc st (s :: p :: o :: rest) = (st', .error e)) := by
  rcases h with ⟨te1, pv, e, h1⟩ | ⟨te1, rs, r1, ws, te2, pv, e, h1, h2⟩ |
    ⟨te1, rs, r1, ws, te2, rp, r2, wp, te3, pv, e, h1, h2, h3⟩
  · constructor
    · unfold encodeTripleBody; simp only [h1]; exact ⟨_, _, rfl⟩
    · unfold encodeQuadBody; simp only [h1]; exact ⟨_, _, rfl⟩
  · constructor
    · unfold encodeTripleBody; simp only [h1, h2]; exact ⟨_, _, rfl⟩
    · unfold encodeQuadBody; simp only [h1, h2]; exact ⟨_, _, rfl⟩
  · constructor
    · unfold encodeTripleBody; simp only [h1, h2, h3]; exact ⟨_, _, rfl⟩
    · unfold encodeQuadBody; simp only [h1, h2, h3]; exact ⟨_, _, rfl⟩

theorem encodeTripleBody_ok_inv {exc : PyErr} {st st' : EncState} {terms : List Term} {rows : List Row}
    (h : encodeTripleBody exc st terms = (st', .ok rows)) :
    ∃ s p o rest te3 rep3 r ws wp wo, terms = s :: p :: o :: rest ∧
      SpoSlots st.te st.rep s p o te3 rep3 r ws wp wo ∧
      st' = { te := te3, rep := rep3 } ∧ rows = r ++ [Row.triple ws wp wo] := by
  revert h
  fun_cases encodeTripleBody exc st terms <;> intro h
  case case7 s te1 rs r1 ws h1 _ p te2 rp r2 wp h2 _ o rest te3 ro r3 wo h3 => -- three slots encoded
    exact ⟨s, p, o, rest, te3, _, _, ws, wp, wo, rfl, ⟨te1, rs, r1, te2, rp, r2, ro, r3, h1, h2, h3, rfl, rfl⟩,
      (Prod.mk.inj h).1.symm, (Except.ok.inj (Prod.mk.inj h).2).symm⟩
  all_goals cases (Prod.mk.inj h).2

theorem encodeQuadBody_ok_inv {exc : PyErr} {st st' : EncState} {terms : List Term} {rows : List Row}
    (h : encodeQuadBody exc st terms = (st', .ok rows)) :
    ∃ s p o g rest te3 rep3 r ws wp wo te4 rg r4 wg, terms = s :: p :: o :: g :: rest ∧
      SpoSlots st.te st.rep s p o te3 rep3 r ws wp wo ∧
      encSlot TermEnc.graph te3 rep3.g g = (te4, rg, .ok (r4, wg)) ∧
      st' = { te := te4, rep := { rep3 with g := rg } } ∧ rows = r ++ r4 ++ [Row.quad ws wp wo wg] := by
  revert h
  fun_cases encodeQuadBody exc st terms <;> intro h
  case case9 s te1 rs r1 ws h1 _ p te2 rp r2 wp h2 _ o te3 ro r3 wo h3 _ g rest te4 rg r4 wg h4 => -- four slots encoded
    exact ⟨s, p, o, g, rest, te3, _, _, ws, wp, wo, te4, rg, r4, wg, rfl,
      ⟨te1, rs, r1, te2, rp, r2, ro, r3, h1, h2, h3, rfl, rfl⟩, h4,
      (Prod.mk.inj h).1.symm, (Except.ok.inj (Prod.mk.inj h).2).symm⟩
  all_goals cases (Prod.mk.inj h).2

end Jelly
