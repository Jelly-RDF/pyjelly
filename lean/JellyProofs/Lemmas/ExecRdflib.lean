import JellyModel.Plugin
import JellyProofs.Lemmas.SerRows
/-!
# The loops of the rdflib serializer as command lists

Each rdflib loop equals `Run.exec` of a command list, as the generic loops do in `SerRows.lean`. The second half is
the regrouping argument of C02: when the named graphs are well split (`graphsWellSplit`: neighbours have different
names, no graph is empty), the generic graph loop fed their quads (`quadsOf`) collects them back into the same
graphs, so it issues the commands of the rdflib loop that is handed the graphs one by one (`graphsCmds_quadsOf`).
-/
namespace Jelly

def nsCmdsR (ns : List (String × String)) : List Cmd := ns.map fun b => .emit (nsOp b.1 b.2)

theorem nsDeclarationsR_eq (ns : List (String × String)) (s : Stream) :
    nsDeclarationsR s ns = nsDeclarations s (ns.map fun b => (b.1, .iri b.2)) := by
  induction ns generalizing s with
  | nil => rfl
  | cons b rest ih =>
    rw [nsDeclarationsR, List.map_cons, nsDeclarations]
    rcases s.namespaceDeclaration b.1 b.2 with ⟨s', e | u⟩
    · rfl
    · exact ih s'

theorem nsDeclarationsR_exec (ns : List (String × String)) (s : Stream) :
    Run.ofRes (nsDeclarationsR s ns) = Run.exec { stream := s } (nsCmdsR ns) := by
  rw [nsDeclarationsR_eq, nsDeclarations_exec, nsCmds, List.map_map]
  rfl

def prologueCmdsR (nsOn isGraph : Bool) (ns : List (String × String)) : List Cmd :=
  if isGraph && nsOn then nsCmdsR ns else []

theorem prologueR_exec (s : Stream) (isGraph : Bool) (ns : List (String × String)) :
    Run.ofRes (prologueR s isGraph ns) =
      Run.exec { stream := s.enroll } (prologueCmdsR s.opts.params.namespaceDeclarations isGraph ns) := by
  unfold prologueR prologueCmdsR
  dsimp only
  rw [s.enroll_keeps.opts]
  split
  · exact nsDeclarationsR_exec _ _
  · rfl

theorem triplesGraphsLoop_exec (graphs : List (List (List Term))) {r : Run} (hr : r.err = none) :
    triplesGraphsLoop r graphs = r.exec (triplesGraphsCmds graphs) := by
  induction graphs generalizing r with
  | nil => rfl
  | cons g gs ih =>
    rw [triplesGraphsLoop, triplesGraphsCmds, List.flatMap_cons, List.append_assoc,
      Run.exec_append_ok hr, Stream.triple_stepOf, stmtLoop_exec]
    dsimp only
    split
    · rfl
    · rename_i h
      exact ih (r := Run.pushCut _ _) (by simpa [Run.pushCut] using h)

theorem graphsLoopR_exec (gs : List (Term × List (List Term))) {r : Run} (hr : r.err = none) :
    graphsLoopR r gs = r.exec (graphsCmdsR gs) := by
  fun_induction graphsLoopR r gs with
  | case1 r => rfl  -- no graph left
  | case2 r g ts rest s' frs err h r' herr =>  -- the graph raised
    rw [graphsCmdsR, List.flatMap_cons, Run.exec_append_ok hr, Run.exec_graphCmds hr, h, if_pos herr]
  | case3 r g ts rest s' frs err h r' herr ih =>  -- the graph is written
    rw [graphsCmdsR, List.flatMap_cons, Run.exec_append_ok hr, Run.exec_graphCmds hr, h, if_neg herr]
    exact ih (by simpa using herr)

/-- The shape the three rdflib entry points share: the prologue, then (if it did not raise) a continuation `k` that is
    an execution. -/
theorem framesR_exec (s : Stream) (isGraph : Bool) (ns : List (String × String)) (k : Stream → Run) (cs : List Cmd)
    (h : ∀ s1, k s1 = Run.exec { stream := s1 } cs) :
    (match prologueR s isGraph ns with
      | (s1, .error e) => ({ stream := s1, err := some e } : Run)
      | (s1, .ok ()) => k s1) =
      Run.exec { stream := s.enroll } (prologueCmdsR s.opts.params.namespaceDeclarations isGraph ns ++ cs) := by
  rw [Run.exec_append_ok rfl, ← prologueR_exec]
  rcases prologueR s isGraph ns with ⟨s1, e | u⟩
  · rfl
  · exact h s1

theorem triplesStreamFramesR_exec (s : Stream) (isGraph : Bool) (ns : List (String × String))
    (graphs : List (List (List Term))) :
    triplesStreamFramesR s isGraph ns graphs =
      Run.exec { stream := s.enroll } (prologueCmdsR s.opts.params.namespaceDeclarations isGraph ns ++
        (triplesGraphsCmds graphs ++ [.cut .all])) :=
  framesR_exec s isGraph ns _ _ fun s1 => by
    show (if _ then _ else _) = _
    rw [Run.exec_append_ok rfl, ← triplesGraphsLoop_exec _ rfl]
    rfl

theorem quadsStreamFramesR_exec (s : Stream) (isGraph : Bool) (ns : List (String × String))
    (quads : List (List Term)) :
    quadsStreamFramesR s isGraph ns quads =
      Run.exec { stream := s.enroll } (prologueCmdsR s.opts.params.namespaceDeclarations isGraph ns ++
        (stmtCmds (quadOp .runtimeError) quads ++ [.cut .dataset, .cut .all])) :=
  framesR_exec s isGraph ns _ _ fun s1 => by
    show (if _ then _ else _) = _
    rw [Run.exec_append_ok rfl, ← stmtLoop_exec, ← Stream.quad_stepOf, epilogue_exec]
    rfl

theorem graphsStreamFramesR_exec (s : Stream) (isGraph : Bool) (ns : List (String × String))
    (gs : List (Term × List (List Term))) :
    graphsStreamFramesR s isGraph ns gs =
      Run.exec { stream := s.enroll } (prologueCmdsR s.opts.params.namespaceDeclarations isGraph ns ++
        (graphsCmdsR gs ++ [.cut .dataset, .cut .all])) :=
  framesR_exec s isGraph ns _ _ fun s1 => by
    show (if _ then _ else _) = _
    rw [Run.exec_append_ok rfl, ← graphsLoopR_exec _ rfl, epilogue_exec]
    rfl

def loopCmdsR (st : RStore) : StreamClass → List Cmd
  | .triple => triplesGraphsCmds (st.graphs.map (·.2)) ++ [.cut .all]
  | .quad => stmtCmds (quadOp .runtimeError) st.quads ++ [.cut .dataset, .cut .all]
  | .graph => graphsCmdsR st.graphs ++ [.cut .dataset, .cut .all]

theorem streamFramesR_exec (s : Stream) (st : RStore) :
    streamFramesR s st =
      Run.exec { stream := s.enroll }
        (prologueCmdsR s.opts.params.namespaceDeclarations true st.ns ++ loopCmdsR st s.cls) := by
  unfold streamFramesR loopCmdsR
  cases s.cls
  · exact triplesStreamFramesR_exec s true st.ns _
  · exact quadsStreamFramesR_exec s true st.ns _
  · exact graphsStreamFramesR_exec s true st.ns _

theorem loopCmdsR_flush (st : RStore) (cls : StreamClass) : ∃ cs, loopCmdsR st cls = cs ++ [.cut .all] := by
  cases cls
  · exact ⟨_, rfl⟩
  · exact ⟨_, (List.append_assoc _ [Cmd.cut .dataset] [Cmd.cut .all]).symm⟩
  · exact ⟨_, (List.append_assoc _ [Cmd.cut .dataset] [Cmd.cut .all]).symm⟩

theorem streamFramesR_eq_gen (s : Stream) (st : RStore) (stmts : List (List Term))
    (hoff : s.opts.params.namespaceDeclarations = false)
    (hl : loopCmdsR st s.cls = classCmds s.cls stmts ++ [.cut (epiKind (classFromDataset s.cls)), .cut .all]) :
    streamFramesR s st = streamFrames s (.gen stmts) := by
  rw [streamFramesR_exec, streamFrames_exec, hoff, hl]
  rfl

theorem loopCmdsR_single (st : RStore) (g : Term) (ts : List (List Term)) (h : st.graphs = [(g, ts)]) :
    loopCmdsR st .triple = classCmds .triple ts ++ [.cut .graph, .cut .all] := by
  simp [loopCmdsR, h, triplesGraphsCmds, classCmds]

theorem nsDeclarations_nil (s : Stream) : nsDeclarations s [] = (s, .ok ()) := rfl

theorem graphsLoopR_nil (r : Run) : graphsLoopR r [] = r := rfl

theorem stmtGraph?_snoc (t : List Term) (g : Term) (h : t.length = 3) :
    stmtGraph? (t ++ [g]) = some g ∧ (t ++ [g]).take 3 = t := by
  match t, h with
  | [a, b, c], _ => exact ⟨rfl, rfl⟩

def quadsOf (gs : List (Term × List (List Term))) : List (List Term) :=
  gs.flatMap fun (g, ts) => ts.map fun t => t ++ [g]

theorem quadsOf_nil : quadsOf [] = [] := rfl

theorem quadsOf_cons (g : Term) (ts : List (List Term)) (rest : List (Term × List (List Term))) :
    quadsOf ((g, ts) :: rest) = ts.map (fun t => t ++ [g]) ++ quadsOf rest := by
  simp [quadsOf]

/-- Consecutive names differ, no graph is empty, all triples have three terms (which is how
    `split_to_graphs` regroups a quad sequence). -/
def graphsWellSplit : List (Term × List (List Term)) → Bool
  | [] => true
  | [(_, ts)] => !ts.isEmpty && ts.all (·.length == 3)
  | (g, ts) :: (g', ts') :: rest =>
    !ts.isEmpty && ts.all (·.length == 3) && g != g' && graphsWellSplit ((g', ts') :: rest)

theorem graphsWellSplit_cons {g : Term} {ts : List (List Term)} {rest : List (Term × List (List Term))}
    (h : graphsWellSplit ((g, ts) :: rest) = true) :
    ts ≠ [] ∧ (∀ t ∈ ts, t.length = 3) ∧ (∀ x ∈ rest.head?, g ≠ x.1) ∧ graphsWellSplit rest = true := by
  rcases rest with _ | ⟨⟨g', ts'⟩, rest⟩
  · simp only [graphsWellSplit, Bool.and_eq_true, Bool.not_eq_true', List.isEmpty_eq_false_iff,
      List.all_eq_true, beq_iff_eq] at h
    exact ⟨h.1, h.2, by simp, rfl⟩
  · simp only [graphsWellSplit, Bool.and_eq_true, Bool.not_eq_true', List.isEmpty_eq_false_iff,
      List.all_eq_true, beq_iff_eq, bne_iff_ne, ne_eq] at h
    obtain ⟨⟨⟨hne, h3⟩, hg⟩, hsp⟩ := h
    exact ⟨hne, h3, by simpa using hg, hsp⟩

/-- Triples of the graph that is being collected just accumulate. -/
theorem graphsCmds_same (g : Term) (more : List (List Term)) :
    ∀ (ts acc : List (List Term)), (∀ t ∈ ts, t.length = 3) →
      graphsCmds (some (g, acc)) (ts.map (fun t => t ++ [g]) ++ more) = graphsCmds (some (g, acc ++ ts)) more
  | [], acc, _ => by rw [List.map_nil, List.nil_append, List.append_nil]
  | t :: ts, acc, h3 => by
    obtain ⟨h1, h2⟩ := stmtGraph?_snoc t g (h3 t (by simp))
    rw [List.map_cons, List.cons_append, graphsCmds, h1]
    dsimp only
    rw [if_pos (beq_self_eq_true g), h2, graphsCmds_same g more ts (acc ++ [t]) (fun t' ht' => h3 t' (by simp [ht'])),
      List.append_assoc, List.singleton_append]

/-- The generic graph loop fed the quads of a well-split list while it is collecting `cur`, whose name is not the
    first of the list: it closes `cur`, then writes graph after graph. -/
theorem graphsCmds_quadsOf : ∀ (rest : List (Term × List (List Term))) (cur : Option (Term × List (List Term))),
    (∀ c ∈ cur, ∀ x ∈ rest.head?, c.1 ≠ x.1) → graphsWellSplit rest = true →
    graphsCmds cur (quadsOf rest) = (cur.elim [] fun c => graphCmds .runtimeError c.1 c.2) ++ graphsCmdsR rest
  | [], cur, _, _ => by
    rw [quadsOf_nil, graphsCmdsR, List.flatMap_nil, List.append_nil]
    rcases cur with _ | ⟨g, acc⟩ <;> rfl
  | (g', ts') :: rest, cur, hne, hsp => by
    obtain ⟨hne', h3', hhd', hsp'⟩ := graphsWellSplit_cons hsp
    cases ts' with
    | nil => exact (hne' rfl).elim
    | cons t ts'' =>
      obtain ⟨h1, h2⟩ := stmtGraph?_snoc t g' (h3' t (by simp))
      have hsame := graphsCmds_same g' (quadsOf rest) ts'' [t] (fun t' ht' => h3' t' (by simp [ht']))
      have hrec := graphsCmds_quadsOf rest (some (g', [t] ++ ts'')) (fun c hc => by cases hc; exact hhd') hsp'
      rw [quadsOf_cons, List.map_cons, List.cons_append, graphsCmds, h1]
      rcases cur with _ | ⟨g, acc⟩ <;> dsimp only
      · rw [h2, hsame, hrec]
        rfl
      · rw [if_neg (by simpa using hne (g, acc) rfl (g', t :: ts'') rfl), h2, hsame, hrec]
        rfl

theorem graphsCmds_none (gs : List (Term × List (List Term))) (h : graphsWellSplit gs = true) :
    graphsCmds none (quadsOf gs) = graphsCmdsR gs :=
  graphsCmds_quadsOf gs none (fun _ h => nomatch h) h

end Jelly
