import JellyProofs.Lemmas.Exec
/-!
# Command lists followed by a decoder: specifications of every outcome, closed under concatenation

`Follows Seg I K cs evs fit` says what running the commands `cs` (`flatRun`) does from an encoder that is in
step (`I`) with a decoder-side state: the rows written are followed by the decoder side (`Seg`) and denote a
prefix of `evs`; if no operation raised they denote all of `evs` and `K` holds afterwards; under `fit` no
operation raises. The loops of the serializers are composed from single operations with `Follows.append` and
`Follows.flatMap`.
-/
namespace Jelly

section
variable {σ : Type}

/-- A segment relation: the decoder side follows rows, which denote events. -/
structure IsSeg (Seg : σ → List Row → σ → List Event → Prop) : Prop where
  nil : ∀ x, Seg x [] x []
  trans : ∀ {a b c r₁ r₂ e₁ e₂}, Seg a r₁ b e₁ → Seg b r₂ c e₂ → Seg a (r₁ ++ r₂) c (e₁ ++ e₂)

def Follows (Seg : σ → List Row → σ → List Event → Prop) (I K : EncState → σ → Prop)
    (cs : List Cmd) (evs : List Event) (fit : Prop) : Prop :=
  ∀ es x, I es x →
    ∃ x' evs', Seg x (flatRun es cs).2.1 x' evs' ∧ evs' <+: evs ∧
      ((flatRun es cs).2.2 = none → evs' = evs ∧ K (flatRun es cs).1 x') ∧
      (fit → (flatRun es cs).2.2 = none)

variable {Seg : σ → List Row → σ → List Event → Prop} {I I' J K K' : EncState → σ → Prop}
  {cs : List Cmd} {evs evs' : List Event} {fit fit' : Prop}

theorem Follows.mono (h : Follows Seg I K cs evs fit) (hI : ∀ es x, I' es x → I es x)
    (hK : ∀ es x, K es x → K' es x) (he : evs = evs') (hf : fit' → fit) : Follows Seg I' K' cs evs' fit' :=
  fun es x hx => by
    obtain ⟨x', e', a, b, c, d⟩ := h es x (hI es x hx)
    exact ⟨x', e', a, he ▸ b, fun h => ⟨he ▸ (c h).1, hK _ _ (c h).2⟩, fun h => d (hf h)⟩

/-- The three one-sided cases of `mono`: a stronger precondition, the events written differently, a stronger `fit`. -/
theorem Follows.mono_pre (h : Follows Seg I K cs evs fit) (hI : ∀ es x, I' es x → I es x) :
    Follows Seg I' K cs evs fit :=
  h.mono hI (fun _ _ h => h) rfl id

theorem Follows.of_evs_eq (h : Follows Seg I K cs evs fit) (he : evs = evs') : Follows Seg I K cs evs' fit :=
  he ▸ h

theorem Follows.weaken_fit (h : Follows Seg I K cs evs fit) (hf : fit' → fit) : Follows Seg I K cs evs fit' :=
  h.mono (fun _ _ h => h) (fun _ _ h => h) rfl hf

theorem Follows.nil (hs : IsSeg Seg) : Follows Seg I I [] [] True :=
  fun _ x hI => ⟨x, [], hs.nil x, List.prefix_refl _, fun _ => ⟨rfl, hI⟩, fun _ => rfl⟩

theorem Follows.append (hs : IsSeg Seg) {a b : List Cmd} {ea eb : List Event} {fa fb : Prop}
    (ha : Follows Seg I J a ea fa) (hb : Follows Seg J K b eb fb) :
    Follows Seg I K (a ++ b) (ea ++ eb) (fa ∧ fb) := by
  intro es x hI
  obtain ⟨x1, e1, s1, p1, k1, f1⟩ := ha es x hI
  rw [flatRun_append]
  cases he : (flatRun es a).2.2 with
  | some e =>
    exact ⟨x1, e1, s1, p1.trans (List.prefix_append _ _), fun h => (by cases h),
      fun hf => by rw [f1 hf.1] at he; cases he⟩
  | none =>
    obtain ⟨rfl, hJ⟩ := k1 he
    obtain ⟨x2, e2, s2, p2, k2, f2⟩ := hb _ x1 hJ
    refine ⟨x2, e1 ++ e2, hs.trans s1 s2, (List.prefix_append_right_inj _).mpr p2, fun h => ?_, fun hf => f2 hf.2⟩
    obtain ⟨rfl, hK⟩ := k2 h
    exact ⟨rfl, hK⟩

theorem Follows.then_cuts (hs : IsSeg Seg)
    (h : Follows Seg I K cs evs fit) (ks : List CutKind) : Follows Seg I K (cs ++ ks.map .cut) evs fit := by
  have hk : Follows Seg K K (ks.map .cut) [] True := by
    induction ks with
    | nil => exact Follows.nil hs
    | cons k ks ih => exact ih
  exact ((Follows.append hs h hk).of_evs_eq (List.append_nil _)).weaken_fit fun hf => ⟨hf, trivial⟩

theorem Follows.flatMap (hs : IsSeg Seg) {α : Type} (l : List α)
    (cs : α → List Cmd) (evs : α → List Event) (fit : α → Prop)
    (h : ∀ a ∈ l, Follows Seg I I (cs a) (evs a) (fit a)) :
    Follows Seg I I (l.flatMap cs) (l.flatMap evs) (∀ a ∈ l, fit a) := by
  induction l with
  | nil => exact (Follows.nil hs).weaken_fit fun _ => trivial
  | cons a l ih =>
    exact ((Follows.append hs (h a List.mem_cons_self) (ih fun b hb => h b (List.mem_cons_of_mem _ hb))).of_evs_eq
      List.flatMap_cons.symm).weaken_fit
      fun hf => ⟨hf a List.mem_cons_self, fun b hb => hf b (List.mem_cons_of_mem _ hb)⟩

theorem Follows.emit (hs : IsSeg Seg) {op : EncOp}
    (refused : ∀ {es x es' e}, I es x → op es = (es', .error e) → ¬ fit)
    (accepted : ∀ {es x es' rows}, I es x → op es = (es', .ok rows) → ∃ x', Seg x rows x' evs ∧ K es' x') :
    Follows Seg I K [.emit op] evs fit := by
  intro es x hI
  rcases hop : op es with ⟨es', e | rows⟩
  · have hr : flatRun es [.emit op] = (es', [], some e) := by rw [flatRun_emit, hop]
    rw [hr]
    exact ⟨x, [], hs.nil x, List.nil_prefix, fun h => (by cases h), fun hf => absurd hf (refused hI hop)⟩
  · have hr : flatRun es [.emit op] = (es', rows ++ [], none) := by rw [flatRun_emit, hop]; rfl
    obtain ⟨x', s, k⟩ := accepted hI hop
    rw [hr, List.append_nil]
    exact ⟨x', evs, s, List.prefix_refl _, fun _ => ⟨rfl, k⟩, fun _ => rfl⟩

/-- What `Follows.emit` was built from, read back: an accepted call is followed. -/
theorem Follows.accepted {op : EncOp} (h : Follows Seg I K [.emit op] evs fit)
    {es es' : EncState} {x : σ} {rows : List Row} (hI : I es x) (hop : op es = (es', .ok rows)) :
    ∃ x', Seg x rows x' evs ∧ K es' x' := by
  obtain ⟨x', evs', hseg, -, hk, -⟩ := h es x hI
  have hr : flatRun es [.emit op] = (es', rows ++ [], none) := by rw [flatRun_emit, hop]; rfl
  rw [hr, List.append_nil] at hseg hk
  obtain ⟨rfl, hK⟩ := hk rfl
  exact ⟨x', hseg, hK⟩

/-- … and under `fit` the call is accepted. -/
theorem Follows.of_fit {op : EncOp} (h : Follows Seg I K [.emit op] evs fit)
    {es : EncState} {x : σ} (hI : I es x) (hf : fit) :
    ∃ es' rows x', op es = (es', .ok rows) ∧ Seg x rows x' evs ∧ K es' x' := by
  obtain ⟨-, -, -, -, -, herr⟩ := h es x hI
  rcases hop : op es with ⟨es', e | rows⟩
  · rw [flatRun_emit, hop] at herr; cases herr hf
  · obtain ⟨x', hx⟩ := h.accepted hI hop
    exact ⟨es', rows, x', rfl, hx⟩

end

end Jelly
