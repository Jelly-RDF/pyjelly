import JellyProofs.Lemmas.SerRows
import JellyProofs.Lemmas.RowBracket
import JellyProofs.Lemmas.EncodeInv
/-!
# With the option off no namespace row is written

`Row.isNamespace` is false on every row the three encoders return (`iriIndices_notNs` … `encodeQuad_notNs`, by the
inversions of Lemmas/EncodeInv), hence on every row of a run (`streamFrames_rows_all`).
-/
namespace Jelly

def Row.isNamespace : Row → Bool
  | .namespace _ _ => true
  | _ => false

theorem entryRows_notNs {r : Row} {oid : Option Nat} {k : String}
    (h : r ∈ nameEntryRows oid k ∨ r ∈ prefixEntryRows oid k ∨ r ∈ dtEntryRows oid k) : r.isNamespace = false := by
  obtain ⟨_, _, rfl | rfl | rfl⟩ := mem_entryRows h <;> rfl

theorem iriIndices_notNs {te te' : TermEnc} {iri : String} {rows : List Row} {p n : Nat}
    (h : te.iriIndices iri = (te', .ok (rows, p, n))) : ∀ r ∈ rows, r.isNamespace = false := by
  intro r hr
  rcases TermEnc.iriIndices_ok_inv h with ⟨-, -, ne1, noid, ne2, -, -, -, rfl⟩ |
    ⟨-, pe1, poid, ne1, noid, pe2, ne2, -, -, -, -, -, rfl⟩
  · exact entryRows_notNs (.inl hr)
  · rcases List.mem_append.1 hr with hr | hr
    · exact entryRows_notNs (.inr (.inl hr))
    · exact entryRows_notNs (.inl hr)

theorem literal_notNs {te te' : TermEnc} {lang dt : Option String} {rows : List Row} {k : WLitKind}
    (h : te.literal lang dt = (te', .ok (rows, k))) : ∀ r ∈ rows, r.isNamespace = false := by
  intro r hr
  rcases TermEnc.literal_ok_inv h with ⟨-, -, rfl, -⟩ | ⟨d, de1, doid, de2, did, -, -, -, -, -, -, rfl, -⟩
  · cases hr
  · exact entryRows_notNs (.inr (.inr hr))

theorem spo_notNs (t : Term) : ∀ {te te' : TermEnc} {rows : List Row} {w : WTerm},
    te.spo t = (te', .ok (rows, w)) → ∀ r ∈ rows, r.isNamespace = false := by
  induction t with
  | iri s =>
    intro te te' rows w h
    obtain ⟨_, _, hi, _⟩ := TermEnc.spo_ok_inv h
    exact iriIndices_notNs hi
  | lit lex lang dt =>
    intro te te' rows w h
    obtain ⟨_, hl, _⟩ := TermEnc.spo_ok_inv h
    exact literal_notNs hl
  | bnode b =>
    intro te te' rows w h
    obtain ⟨_, rfl, _⟩ := TermEnc.spo_ok_inv h
    simp
  | quoted s p o ihs ihp iho =>
    intro te te' rows w h
    obtain ⟨te1, te2, r1, r2, r3, ws, wp, wo, h1, h2, h3, rfl, -⟩ := TermEnc.spo_ok_inv h
    intro r hr
    simp only [List.mem_append] at hr
    rcases hr with (hr | hr) | hr
    · exact ihs h1 r hr
    · exact ihp h2 r hr
    · exact iho h3 r hr
  | defaultGraph => exact fun h => (TermEnc.spo_ok_inv h).elim
  | unsupported => exact fun h => (TermEnc.spo_ok_inv h).elim

theorem graph_notNs {t : Term} {te te' : TermEnc} {rows : List Row} {w : WTerm}
    (h : te.graph t = (te', .ok (rows, w))) : ∀ r ∈ rows, r.isNamespace = false := by
  cases t with
  | iri s => exact spo_notNs (.iri s) h
  | lit lex lang dt => exact spo_notNs (.lit lex lang dt) h
  | bnode x => exact spo_notNs (.bnode x) h
  | defaultGraph =>
    obtain ⟨_, rfl, _⟩ := TermEnc.graph_ok_inv h
    simp
  | quoted s p o => exact (TermEnc.graph_ok_inv h).elim
  | unsupported => exact (TermEnc.graph_ok_inv h).elim

theorem encSlot_notNs {enc : TermEnc → Term → Res TermEnc (List Row × WTerm)}
    (henc : ∀ {t te te' rows w}, enc te t = (te', .ok (rows, w)) → ∀ r ∈ rows, r.isNamespace = false)
    {te te' : TermEnc} {prev prev' : Option Term} {t : Term} {rows : List Row} {w : Option WTerm}
    (h : encSlot enc te prev t = (te', prev', .ok (rows, w))) : ∀ r ∈ rows, r.isNamespace = false := by
  rcases encSlot_inv h with ⟨-, -, rfl, -⟩ | ⟨-, w, -, he⟩
  · simp
  · exact henc he

theorem SpoSlots.notNs {te te' : TermEnc} {rep rep' : Repeated} {s p o : Term} {rows : List Row}
    {ws wp wo : Option WTerm} (h : SpoSlots te rep s p o te' rep' rows ws wp wo) :
    ∀ r ∈ rows, r.isNamespace = false := by
  obtain ⟨te1, rs, r1, te2, rp, r2, ro, r3, h1, h2, h3, -, rfl⟩ := h
  intro r hr
  simp only [List.mem_append] at hr
  rcases hr with (hr | hr) | hr
  · exact encSlot_notNs (spo_notNs _) h1 r hr
  · exact encSlot_notNs (spo_notNs _) h2 r hr
  · exact encSlot_notNs (spo_notNs _) h3 r hr

theorem encodeTriple_notNs (exc : PyErr) (st st' : EncState) (terms : List Term) (rows : List Row)
    (h : encodeTriple exc st terms = (st', .ok rows)) : ∀ r ∈ rows, r.isNamespace = false := by
  obtain ⟨st1, hb, _⟩ := encodeTriple_ok_inv h
  obtain ⟨s, p, o, rest, te3, rep3, r, ws, wp, wo, -, hsl, -, rfl⟩ := encodeTripleBody_ok_inv hb
  intro r hr
  rcases List.mem_append.1 hr with hr | hr
  · exact hsl.notNs r hr
  · rw [List.mem_singleton.1 hr]
    rfl

theorem encodeQuad_notNs (exc : PyErr) (st st' : EncState) (terms : List Term) (rows : List Row)
    (h : encodeQuad exc st terms = (st', .ok rows)) : ∀ r ∈ rows, r.isNamespace = false := by
  obtain ⟨st1, hb, _⟩ := encodeQuad_ok_inv h
  obtain ⟨s, p, o, g, rest, te3, rep3, r, ws, wp, wo, te4, rg, r4, wg, -, hsl, h4, -, rfl⟩ :=
    encodeQuadBody_ok_inv hb
  intro r hr
  simp only [List.mem_append, List.mem_singleton] at hr
  rcases hr with (hr | hr) | rfl
  · exact hsl.notNs r hr
  · exact encSlot_notNs graph_notNs h4 r hr
  · rfl

theorem notNs_sound_graphStart (g : Term) :
    EncOp.Sound (fun _ => True) (fun r => r.isNamespace = false) (graphStartOp g) := by
  intro enc enc' rows _ h
  obtain ⟨te', rows0, w, hg, -, rfl⟩ := graphStartOp_ok_inv h
  refine ⟨trivial, fun x hx => ?_⟩
  rcases List.mem_append.1 hx with hx | hx
  · exact graph_notNs hg x hx
  · rw [List.mem_singleton.1 hx]
    rfl

theorem streamFrames_clean (s : Stream) (d : SerData)
    (hoff : s.opts.params.namespaceDeclarations = false) (hs : ∀ x ∈ s.flow.rows, x.isNamespace = false) :
    ∀ x ∈ Run.allRows' (streamFrames s d), x.isNamespace = false :=
  streamFrames_rows_all (I := fun _ => True) (fun _ => True) notNs_sound_graphStart rfl
    (fun t _ enc enc' rows _ h => ⟨trivial, encodeTriple_notNs _ enc enc' t rows h⟩)
    (fun t _ enc enc' rows _ h => ⟨trivial, encodeQuad_notNs _ enc enc' t rows h⟩)
    (fun _ _ => trivial) s d (by rw [hoff]; cases d <;> rfl) (fun _ _ => trivial) trivial hs rfl

end Jelly
