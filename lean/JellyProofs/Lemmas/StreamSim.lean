import JellyProofs.Lemmas.OpSim
import JellyProofs.Lemmas.DecodeEqs
/-!
# Stream-level simulation and audit: every run on a fresh stream against `Spec.runRows` and `Spec.audit`

`exec_fresh_total`: the options row, then any command list with a `Follows` specification. `stream_total`: the one
theorem about `streamFrames` (any class, generator or sink input, every outcome); C03, C14, C18, C19 are instances.
-/
namespace Jelly

/-- The payload of `Stream.optionsRow` (`s.optionsRow = .options (wireOptions s)` by `rfl`): the options the
    reference decoder has after the first row. -/
def wireOptions (s : Stream) : Options :=
  { streamName := s.opts.params.streamName, physicalType := s.cls.physical,
    generalized := s.opts.params.generalized, rdfStar := s.opts.params.rdfStar,
    maxNames := s.opts.preset.maxNames, maxPrefixes := s.opts.preset.maxPrefixes,
    maxDatatypes := s.opts.preset.maxDatatypes, logicalType := s.logicalType,
    version := s.opts.params.version }

theorem wireOptions_physical {s : Stream} {cls : StreamClass} {o : SerOptions} (hs : Stream.new cls o = .ok s) :
    (wireOptions s).physicalType = cls.physical := by
  rw [← (Stream.new_spec hs).cls_eq]; rfl

theorem exec_fresh_rows {s : Stream} {cls : StreamClass} {o : SerOptions} (hs : Stream.new cls o = .ok s)
    (cs : List Cmd) :
    Run.allRows' (Run.exec { stream := s.enroll } cs) = s.optionsRow :: (flatRun s.enc cs).2.1 :=
  Run.exec_fresh_rows (Stream.new_spec hs).enrolled (Stream.new_spec hs).rows cs

theorem fresh_inStep (N : Prop) {s : Stream} {cls : StreamClass} {o : SerOptions} (hs : Stream.new cls o = .ok s) :
    InStep N o.preset (wireOptions s) none s.enc (Spec.initState (wireOptions s), none) := by
  obtain ⟨-, -, hopts, henc, -⟩ := Stream.new_spec hs
  rw [henc]
  simp only [Spec.initState, wireOptions, hopts]
  exact ⟨{ inv := { wft := ⟨Lookup.WF.new _, Lookup.WF.new _, Lookup.WF.new _, rfl, rfl, rfl, fun _ => rfl⟩
                    em := ⟨EMirror.new _, EMirror.new _, EMirror.new _⟩
                    lrn := rfl, lrp := rfl, lrd := rfl, rs := rfl, rp := rfl, ro := rfl, rg := rfl, nb := rfl }
           opts := rfl
           aud := fun _ => ⟨⟨XMirror.new _, XMirror.new _, XMirror.new _⟩, rfl, rfl, rfl, rfl⟩ },
    fun _ hg => nomatch hg⟩

theorem optionsRow_step {s : Stream} {cls : StreamClass} {o : SerOptions} (hs : Stream.new cls o = .ok s)
    (hl : validLogical s.logicalType = true) :
    Spec.step {} s.optionsRow = .ok (Spec.initState (wireOptions s), none) := by
  obtain ⟨hv, hcls, hopts, -, -, -, htc⟩ := Stream.new_spec hs
  have hph : cls.physical ≠ 0 := by cases cls <;> simp [StreamClass.physical]
  have hpair := (Spec.typePairAllowed_iff hph).2 ⟨htc, .inr hl⟩
  have hn := (Preset.valid_iff _).1 hv
  have hver : 1 ≤ o.params.version ∧ o.params.version ≤ 2 := by
    unfold Params.version; split <;> simp
  have hcheck : Spec.checkOptions (wireOptions s) = .ok () := by
    rw [Spec.checkOptions_iff]
    simp only [wireOptions, hcls, hopts]
    exact ⟨cls.physical_cases, hpair, hn, hver⟩
  have : s.optionsRow = .options (wireOptions s) := rfl
  rw [this]
  rw [Spec.step_options, hcheck]
  rfl

theorem runRows_options {s : Stream} {ss0 ss' : Spec.State} {rows : List Row} {evs : List Event}
    (hstep : Spec.step {} s.optionsRow = .ok (ss0, none)) (hrun : RunsTo ss0 rows ss' evs) :
    Spec.runRows ([s.optionsRow] ++ rows) = (ss', evs, none) := by
  simp only [Spec.runRows, List.singleton_append, run_cons_ok hstep, Option.toList, List.append_nil]
  have := hrun.final [] (0 + 1)
  simpa using this

theorem exec_fresh_total (N : Prop) {s : Stream} {cls : StreamClass} {o : SerOptions} (hs : Stream.new cls o = .ok s)
    (hl : validLogical s.logicalType = true) (cs : List Cmd) {evs : List Event} {fit : Prop}
    {K : EncState → DSide → Prop}
    (hcs : Follows (RunsToN N) (fun es x => InStep N o.preset (wireOptions s) none es x ∧ x.2 = none) K cs evs fit) :
    ∃ evs' st, evs' <+: evs ∧ Spec.runRows (Run.allRows' (Run.exec { stream := s.enroll } cs)) = (st, evs', none) ∧
      (N → Spec.audit (Run.allRows' (Run.exec { stream := s.enroll } cs)) = {}) ∧
      ((Run.exec { stream := s.enroll } cs).err = none → evs' = evs) ∧
      (fit → (Run.exec { stream := s.enroll } cs).err = none) := by
  have hstep := optionsRow_step hs hl
  obtain ⟨x', evs', hseg, hpre, hk, hfit⟩ := hcs s.enc _ ⟨fresh_inStep N hs, rfl⟩
  have herr : (Run.exec { stream := s.enroll } cs).err = (flatRun s.enc cs).2.2 := by
    rw [Run.exec_err rfl, s.enroll_enc]
  have hrows : Run.allRows' (Run.exec { stream := s.enroll } cs) = [s.optionsRow] ++ (flatRun s.enc cs).2.1 :=
    exec_fresh_rows hs cs
  refine ⟨evs', x'.1, hpre, ?_, fun hN => ?_, fun h => (hk (herr ▸ h)).1, fun h => herr.trans (hfit h)⟩
  · rw [hrows]; exact runRows_options hstep hseg.1
  · have hrow : s.optionsRow = .options (wireOptions s) := rfl
    have q := hseg.2 hN {} []
    rw [List.append_nil] at q
    rw [hrows, hrow]
    rw [hrow] at hstep
    simp only [Spec.audit, List.singleton_append, Spec.runAudit, hstep, Spec.auditRow, q]

theorem exec_fresh_sim {s : Stream} {cls : StreamClass} {o : SerOptions} (hs : Stream.new cls o = .ok s)
    (hl : validLogical s.logicalType = true) (cs : List Cmd) {evs : List Event} {fit : Prop}
    {K : EncState → DSide → Prop}
    (hcs : Follows (RunsToN False) (fun es x => InStep False o.preset (wireOptions s) none es x ∧ x.2 = none) K cs evs
      fit)
    (hfit : fit) :
    (Run.exec { stream := s.enroll } cs).err = none ∧
    ∃ st, Spec.runRows (Run.allRows' (Run.exec { stream := s.enroll } cs)) = (st, evs, none) := by
  obtain ⟨evs', st, -, h1, -, h2, h3⟩ := exec_fresh_total False hs hl cs hcs
  obtain rfl := h2 (h3 hfit)
  exact ⟨h3 hfit, st, h1⟩

/-- `streamFrames` on a fresh stream of any class, every outcome: what has been written is accepted by the reference
    decoder and denotes a prefix of the declarations and statements — all of them if the run ended without an
    exception, which it does when every statement fits; for normal statements without declarations (`N`) the
    audit counts nothing. -/
theorem stream_total (N : Prop) {cls : StreamClass} {o : SerOptions} {s : Stream} (hs : Stream.new cls o = .ok s)
    (hl : validLogical s.logicalType = true) (d : SerData)
    (hb : ∀ b ∈ d.decls o.params.namespaceDeclarations, ∃ i, b.2 = Term.iri i)
    (hwf : ∀ t ∈ d.stmts, cls.stmtWF t = true)
    (hn : N → d.decls o.params.namespaceDeclarations = [] ∧ ∀ t ∈ d.stmts, NormalStmt t) :
    ∃ evs' st,
      evs' <+: (d.decls o.params.namespaceDeclarations).map (fun b => Event.ns b.1 b.2) ++
        d.stmts.map (fun t => Event.stmt (t.map Term.norm)) ∧
      Spec.runRows (Run.allRows' (streamFrames s d)) = (st, evs', none) ∧
      (N → Spec.audit (Run.allRows' (streamFrames s d)) = {}) ∧
      ((streamFrames s d).err = none →
        evs' = (d.decls o.params.namespaceDeclarations).map (fun b => Event.ns b.1 b.2) ++
          d.stmts.map (fun t => Event.stmt (t.map Term.norm))) ∧
      ((∀ t ∈ d.stmts, stmtFits o.preset t = true) → (streamFrames s d).err = none) := by
  obtain ⟨hv, hcls, hopts, -⟩ := Stream.new_spec hs
  have hs1 := RunsToN.isSeg N
  have hns : d.decls o.params.namespaceDeclarations ≠ [] → ¬ N ∧ 2 ≤ (wireOptions s).version := fun hne =>
    ⟨fun hN => hne (hn hN).1, by
      have hon : o.params.namespaceDeclarations = true := by
        cases h : o.params.namespaceDeclarations
        · rw [h] at hne; cases d <;> exact absurd rfl hne
        · rfl
      simp [wireOptions, hopts, Params.version, hon]⟩
  have hcs := Follows.append hs1
    (nsCmds_follows N hv none _ hb hns (· = none))
    (((classCmds_follows N (posn_of_valid hv) cls (wireOptions_physical hs) d.stmts hwf fun hN => (hn hN).2).then_cuts
      hs1 [epiKind (classFromDataset cls), .all]).mono_pre fun _ _ h => ⟨h.1, fun _ => h.2⟩)
  rw [streamFrames_exec, hcls, hopts, streamCmds, prologueCmds]
  obtain ⟨evs', st, h1, h2, h3, h4, h5⟩ := exec_fresh_total N hs hl _ hcs
  exact ⟨evs', st, h1, h2, h3, h4, fun hf => h5 ⟨trivial, fun t ht => .of_stmtFits hv (hf t ht)⟩⟩

theorem stream_sim (cls : StreamClass) (o : SerOptions) (s : Stream) (d : SerData)
    (hs : Stream.new cls o = .ok s) (hl : validLogical s.logicalType = true)
    (hb : ∀ b ∈ d.decls o.params.namespaceDeclarations, ∃ i, b.2 = Term.iri i)
    (hwf : ∀ t ∈ d.stmts, cls.stmtWF t = true) (hfit : ∀ t ∈ d.stmts, stmtFits o.preset t = true) :
    (streamFrames s d).err = none ∧
    ∃ st, Spec.runRows (Run.allRows' (streamFrames s d))
            = (st, (d.decls o.params.namespaceDeclarations).map (fun b => Event.ns b.1 b.2) ++
                d.stmts.map (fun t => Event.stmt (t.map Term.norm)), none) := by
  obtain ⟨evs, st, -, h1, -, h2, h3⟩ := stream_total False hs hl d hb hwf (fun h => h.elim)
  obtain rfl := h2 (h3 hfit)
  exact ⟨h3 hfit, st, h1⟩

theorem stream_sim_or_err (cls : StreamClass) (o : SerOptions) (s : Stream) (stmts : List (List Term))
    (hs : Stream.new cls o = .ok s) (hl : validLogical s.logicalType = true)
    (hwf : ∀ t ∈ stmts, cls.stmtWF t = true) :
    (streamFrames s (.gen stmts)).err ≠ none ∨
    ∃ st, Spec.runRows (Run.allRows' (streamFrames s (.gen stmts)))
            = (st, stmts.map (fun t => Event.stmt (t.map Term.norm)), none) := by
  obtain ⟨evs, st, -, h1, -, h2, -⟩ :=
    stream_total False hs hl (.gen stmts) (fun _ h => nomatch h) hwf (fun h => h.elim)
  cases he : (streamFrames s (.gen stmts)).err with
  | some e => exact Or.inl (by simp)
  | none =>
    obtain rfl := h2 he
    exact Or.inr ⟨st, h1⟩

theorem stream_audit (cls : StreamClass) (o : SerOptions) (s : Stream) (stmts : List (List Term))
    (hs : Stream.new cls o = .ok s) (hl : validLogical s.logicalType = true)
    (hwf : ∀ t ∈ stmts, cls.stmtWF t = true) (hn : ∀ t ∈ stmts, NormalStmt t) :
    Spec.audit (Run.allRows' (streamFrames s (.gen stmts))) = {} := by
  obtain ⟨-, -, -, -, h, -⟩ :=
    stream_total True hs hl (.gen stmts) (fun _ h => nomatch h) hwf (fun _ => ⟨rfl, hn⟩)
  exact h trivial

theorem Stream.graphTriples_sim {P : Preset} {o : Options} (h3 : o.physicalType = 3) (exc : PyErr)
    (gn : Term) :
    ∀ (triples : List (List Term)) (s : Stream) (acc : List Frame) (ss : Spec.State),
      Inv P s.enc ss → ss.opts = some o → ss.graph = some gn →
      (∀ t ∈ triples, TripleOK P t) →
      ∃ s' frames' ss' rows, Stream.graphTriples exc s triples acc = (s', frames', none) ∧
        rowsOf frames' s' = rowsOf acc s ++ rows ∧ Inv P s'.enc ss' ∧ ss'.opts = some o ∧
        ss'.graph = some gn ∧
        RunsTo ss rows ss' (triples.map (fun t => Event.stmt (t.map Term.norm ++ [gn]))) := by
  intro triples s acc ss inv ho hg hok
  cases triples with
  | nil => exact ⟨s, acc, ss, [], by simp [Stream.graphTriples], by simp, inv, ho, hg, RunsTo.nil ss⟩
  | cons t ts =>
    obtain ⟨_, hf, _⟩ := (hok t List.mem_cons_self).fits
    rw [Stream.graphTriples_stmtLoop, Stream.triple_stepOf, stmtLoop_exec]
    have hr := Run.exec_flat (stmtCmds (tripleOp exc) (t :: ts)) { stream := s, frames := acc }
    obtain ⟨x', evs, hseg, _, hk, hfit⟩ :=
      tripleCmds_follows False hf.posn (Or.inr ⟨h3, rfl⟩) exc (t :: ts) (fun t ht => (hok t ht).wf) (fun h => h.elim)
        s.enc (ss, none) ⟨⟨inv, ho, fun h => h.elim⟩, fun g h => hg.trans h⟩
    have hnone := hfit fun t ht => (hok t ht).fits
    obtain ⟨rfl, hK⟩ := hk hnone
    exact ⟨_, _, x'.1, _, by rw [hr.err, hnone]; rfl, hr.rows, hr.enc ▸ hK.1.inv, hK.1.opts, hK.2 gn rfl, hseg.1⟩

/-- `grouped_stream_to_frames` with explicit options (declarations off) over a non-empty list of sinks, given
    what the first `guess_stream` returns: one execution on a fresh stream. -/
theorem grouped_sim {o : SerOptions} {cls : StreamClass} {s : Stream} (hnew : Stream.new cls o = .ok s)
    (hl : validLogical s.logicalType = true) (hoff : o.params.namespaceDeclarations = false)
    (first : Sink) (more : List Sink) (hguess : guessStream o first = .ok s)
    (hwf : ∀ sk ∈ first :: more, ∀ t ∈ sk.store, cls.stmtWF t = true)
    (hfit : ∀ sk ∈ first :: more, ∀ t ∈ sk.store, stmtFits o.preset t = true) :
    (groupedStreamToFrames (first :: more) (some o)).2.2 = none ∧
    ∃ st, Spec.runRows ((groupedStreamToFrames (first :: more) (some o)).1.flatMap (·.rows))
            = (st, ((first :: more).flatMap (·.store)).map (fun t => Event.stmt (t.map Term.norm)), none) := by
  obtain ⟨hv, hcls, hopts, -⟩ := Stream.new_spec hnew
  have hs := RunsToN.isSeg False
  have hcs : Follows (RunsToN False) (fun es x => InStep False o.preset (wireOptions s) none es x ∧ x.2 = none)
      (InStep False o.preset (wireOptions s) none) (groupedCmds cls false (first :: more))
      (((first :: more).flatMap (·.store)).map fun t => Event.stmt (t.map Term.norm))
      (∀ sk ∈ first :: more, ∀ t ∈ sk.store, TermFits o.preset t) :=
    ((Follows.flatMap hs (first :: more) _ _ _ fun sk hsk =>
      ((classCmds_follows False (posn_of_valid hv) cls (wireOptions_physical hnew) sk.store (hwf sk hsk)
        (fun h => h.elim)).then_cuts hs [epiKind (classFromDataset cls), .all]).mono_pre
        fun _ _ h => ⟨h, fun h => h.elim⟩).mono_pre fun _ _ h => h.1).of_evs_eq List.map_flatMap.symm
  obtain ⟨herr, st, h1⟩ := exec_fresh_sim hnew hl _ hcs fun sk hsk t ht => .of_stmtFits hv (hfit sk hsk t ht)
  rw [grouped_exec first more hguess hopts, hcls, hoff]
  obtain ⟨cs, hcs'⟩ := groupedCmds_flush cls false first more
  have hflow : (Run.exec { stream := s.enroll } (groupedCmds cls false (first :: more))).stream.flow.rows = [] := by
    rw [hcs'] at herr ⊢
    exact Run.exec_flush rfl _ herr
  exact ⟨herr, st, by simpa [Run.allRows', rowsOf, hflow] using h1⟩

end Jelly
