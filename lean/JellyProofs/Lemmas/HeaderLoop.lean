import JellyModel.Parse
/-!
# The header loop of `get_options_and_frames` on a non-seekable source

Whatever the read schedule of the transport, collecting the header chunk by chunk ends with the first three bytes of
the source (`readHeaderLoop_eq`): the framing hint of a non-seekable source is that of a seekable one. Fewer than
three bytes never say "delimited".
-/
namespace Jelly

theorem take_append_drop_take_length (k : Nat) (l : Bytes) : l.take k ++ l.drop (l.take k).length = l := by
  rw [List.length_take]
  by_cases hk : k ≤ l.length
  · rw [Nat.min_eq_left hk, List.take_append_drop]
  · have hl : l.length ≤ k := by omega
    rw [Nat.min_eq_right hl, List.take_of_length_le hl, List.drop_length, List.append_nil]

theorem readHeaderLoop_eq (sched : List Nat) (hdr rest : Bytes) (h : hdr.length ≤ 3) :
    readHeaderLoop sched hdr rest = (hdr ++ rest).take 3 := by
  fun_induction readHeaderLoop sched hdr rest with
  | case1 hdr rest => rw [List.take_append, List.take_of_length_le h]  -- schedule used up: one last read
  | case2 n sched hdr rest h3 =>  -- three bytes are there
    rw [List.take_append, List.take_of_length_le h, show 3 - hdr.length = 0 by omega, List.take_zero, List.append_nil]
  | case3 n sched hdr rest h3 chunk he =>  -- empty read: the source is exhausted
    have hr : rest = [] := by
      rcases List.take_eq_nil_iff.mp (List.isEmpty_iff.1 he) with h0 | h0
      · omega
      · exact h0
    rw [hr, List.append_nil, List.take_of_length_le h]
  | case4 n sched hdr rest h3 chunk he ih =>  -- a chunk was read: go on
    rw [ih (by rw [List.length_append, List.length_take]; omega), List.append_assoc, take_append_drop_take_length]

theorem SourceKind.header_eq_take (kind : SourceKind) (b : Bytes) : kind.header b = b.take 3 := by
  cases kind with
  | seekable => rfl
  | rawNonSeekable sched => simp only [SourceKind.header]; rw [readHeaderLoop_eq sched [] b (by simp), List.nil_append]

theorem delimitedHint_short (h : Bytes) (hl : h.length < 3) : delimitedHint h = false := by
  match h, hl with
  | [], _ => rfl
  | [_], _ => rfl
  | [_, _], _ => rfl
  | _ :: _ :: _ :: _, hl => simp only [List.length_cons] at hl; omega

end Jelly
