import JellyProofs.Lemmas.StreamSim
import JellyProofs.Lemmas.CleanReject
/-!
# Catch-and-continue callers (C20)

The state of such a run is either "in step with the reference decoder" or "broken" (absorbing: every further
call is refused and changes nothing). One block of commands keeps this alternative (`CatchBlock`; `catchRun` is
the flow-free driver over blocks): an accepted well-formed statement is followed by the reference decoder, a clean
rejection leaves the encoder as it was with its row started, a dirty one makes the encoder broken.

One `GraphStream.graph()` call (`catchBlock_graph`): a refused graph NAME is clean or dirty; an encoded graph name
is accepted by the reference decoder whatever the term is (`graphStart_sim_gen`: a graph name is only known to be
well-formed once a triple of the graph has been accepted); the triple loop stops at the first triple that raises
(`flatRun_taken`) and the graph then stays open on the wire — the next graph start replaces it.
-/
namespace Jelly

/-- Starting a row (and abandoning it before any table was used) keeps the invariant. -/
theorem Inv.startRow {P : Preset} {es : EncState} {ss : Spec.State} (inv : Inv P es ss) :
    Inv P { es with te := es.te.startRow } ss :=
  ⟨inv.wft.startRow, inv.em.startRow, inv.lrn, inv.lrp, inv.lrd, inv.rs, inv.rp, inv.ro, inv.rg,
   TermEnc.startRow_not_broken _⟩

/-- The writer is in step with the reference decoder state `ss`, or it is broken. -/
def CatchInv (P : Preset) (o : Options) (es : EncState) (ss : Spec.State) : Prop :=
  InvN False P o es ss ∨ es.te.broken = true

theorem CatchInv.of_refused {P : Preset} {o : Options} {es es' : EncState} {ss : Spec.State}
    (hI : InvN False P o es ss) (h : es' = { es with te := es.te.startRow } ∨ es'.te.broken = true) :
    CatchInv P o es' ss :=
  h.imp (fun h => by rw [h]; exact ⟨hI.inv.startRow, hI.opts, fun h => h.elim⟩) id

/-- Catch-and-continue over blocks of commands, without stream and flow: every block runs to its first
    failure, the next one starts from the encoder that was left. `taken a es`: the statements block `a`
    gets written when it starts from `es`. -/
def catchRun {α : Type} (cmds : α → List Cmd) (taken : α → EncState → List (List Term)) :
    EncState → List α → EncState × List Row × List (List Term)
  | es, [] => (es, [], [])
  | es, a :: l =>
    ((catchRun cmds taken (flatRun es (cmds a)).1 l).1,
     (flatRun es (cmds a)).2.1 ++ (catchRun cmds taken (flatRun es (cmds a)).1 l).2.1,
     taken a es ++ (catchRun cmds taken (flatRun es (cmds a)).1 l).2.2)

/-- What one block does to a catch-and-continue run (`wf` = the statements the writer is specified to accept). -/
def CatchBlock {α : Type} (P : Preset) (o : Options) (wf : List Term → Bool) (cmds : α → List Cmd)
    (taken : α → EncState → List (List Term)) : Prop :=
  ∀ a es ss, CatchInv P o es ss → (∀ q ∈ taken a es, wf q = true) →
    ∃ ss', RunsTo ss (flatRun es (cmds a)).2.1 ss' ((taken a es).map fun q => Event.stmt (q.map Term.norm)) ∧
      CatchInv P o (flatRun es (cmds a)).1 ss'

theorem catchRun_sim {α : Type} {P : Preset} {o : Options} {wf : List Term → Bool} {cmds : α → List Cmd}
    {taken : α → EncState → List (List Term)} (hb : CatchBlock P o wf cmds taken) (l : List α) (es : EncState)
    (ss : Spec.State) (hJ : CatchInv P o es ss) (hwf : ∀ q ∈ (catchRun cmds taken es l).2.2, wf q = true) :
    ∃ ss', RunsTo ss (catchRun cmds taken es l).2.1 ss'
      ((catchRun cmds taken es l).2.2.map fun q => Event.stmt (q.map Term.norm)) := by
  induction l generalizing es ss with
  | nil => exact ⟨ss, RunsTo.nil ss⟩
  | cons a l ih =>
    obtain ⟨ss1, h1, hJ1⟩ := hb a es ss hJ fun q hq => hwf q (List.mem_append_left _ hq)
    obtain ⟨ss2, h2⟩ := ih _ ss1 hJ1 fun q hq => hwf q (List.mem_append_right _ hq)
    exact ⟨ss2, by rw [catchRun, List.map_append]; exact h1.trans h2⟩

theorem catchRun_fresh {α : Type} {cls : StreamClass} {o : SerOptions} {s : Stream} (hs : Stream.new cls o = .ok s)
    (hl : validLogical s.logicalType = true) {wf : List Term → Bool} {cmds : α → List Cmd}
    {taken : α → EncState → List (List Term)} (hb : CatchBlock o.preset (wireOptions s) wf cmds taken) (l : List α)
    (hwf : ∀ q ∈ (catchRun cmds taken s.enc l).2.2, wf q = true) :
    ∃ st, Spec.runRows ([s.optionsRow] ++ (catchRun cmds taken s.enc l).2.1)
      = (st, (catchRun cmds taken s.enc l).2.2.map (fun q => Event.stmt (q.map Term.norm)), none) := by
  obtain ⟨ss', hrun⟩ := catchRun_sim hb l s.enc _ (Or.inl (fresh_inStep False hs).1) hwf
  exact ⟨ss', runRows_options (optionsRow_step hs hl) hrun⟩

/-- The statements a loop of `op` takes before one raises (all of them if none does). -/
def takenOf (op : List Term → EncOp) (es : EncState) : List (List Term) → List (List Term)
  | [] => []
  | t :: ts =>
    match op t es with
    | (_, .error _) => []
    | (es', .ok _) => t :: takenOf op es' ts

theorem flatRun_stmt (op : List Term → EncOp) (t : List Term) (es : EncState) :
    flatRun es (stmtCmds op [t]) =
      match (op t es).2 with
      | .error e => ((op t es).1, [], some e)
      | .ok rows => ((op t es).1, rows, none) := by
  rw [stmtCmds_cons, flatRun_emit]
  rcases op t es with ⟨es', e | rows⟩ <;> simp [stmtCmds]

theorem takenOf_single (op : List Term → EncOp) (t : List Term) (es : EncState) :
    takenOf op es [t] = match (op t es).2 with | .error _ => [] | .ok _ => [t] := by
  rw [takenOf]
  rcases op t es with ⟨es', e | rows⟩ <;> rfl

/-- One statement call of a catch-and-continue run, from the every-outcome statement of the operation: an accepted
    well-formed statement is followed, a clean rejection leaves the encoder with its row started, a dirty one
    broken. -/
theorem catchBlock_stmt {P : Preset} {o : Options} {wf : List Term → Bool} {op : List Term → EncOp}
    {fit : List Term → Prop}
    (hbroken : ∀ t es, es.te.broken = true → op t es = (es, .error .conformance))
    (hclean : ∀ t {es es' e}, op t es = (es', .error e) → es.te.broken = false →
      es' = { es with te := es.te.startRow } ∨ es'.te.broken = true)
    (hout : ∀ t, wf t = true → Follows (RunsToN False) (InStep False P o none) (InStep False P o none)
      [.emit (op t)] [Event.stmt (t.map Term.norm)] (fit t)) :
    CatchBlock P o wf (fun t => stmtCmds op [t]) (fun t es => takenOf op es [t]) := by
  intro t es ss hJ hwf
  dsimp only at hwf ⊢
  rw [flatRun_stmt]
  rw [takenOf_single] at hwf ⊢
  rcases hJ with hI | hb
  · rcases h : op t es with ⟨es', e | rows⟩
    · exact ⟨ss, RunsTo.nil ss, .of_refused hI (hclean t h hI.inv.nb)⟩
    · rw [h] at hwf
      obtain ⟨x', hrun, hK⟩ :=
        (hout t (hwf t List.mem_cons_self)).accepted (x := (ss, none)) ⟨hI, fun _ h => nomatch h⟩ h
      exact ⟨x'.1, hrun.1, Or.inl hK.1⟩
  · rw [hbroken t es hb]
    exact ⟨ss, RunsTo.nil ss, Or.inr hb⟩

theorem catchBlock_triple {P : Preset} {o : Options} (hv : P.valid = true) (h1 : o.physicalType = 1) (exc : PyErr) :
    CatchBlock P o tripleWF (fun t => stmtCmds (tripleOp exc) [t]) (fun t es => takenOf (tripleOp exc) es [t]) :=
  catchBlock_stmt (fun t _ hb => rowBracket_broken (body := (encodeTripleBody exc · t)) hb)
    (fun _ _ _ _ => encodeTriple_err_clean_or_broken)
    (fun _ hwf => by simpa using tripleOp_follows False (posn_of_valid hv) (Or.inl ⟨h1, rfl⟩) exc hwf (fun h => h.elim))

theorem catchBlock_quad {P : Preset} {o : Options} (hv : P.valid = true) (h2 : o.physicalType = 2) (exc : PyErr) :
    CatchBlock P o quadWF (fun t => stmtCmds (quadOp exc) [t]) (fun t es => takenOf (quadOp exc) es [t]) :=
  catchBlock_stmt (fun t _ hb => rowBracket_broken (body := (encodeQuadBody exc · t)) hb)
    (fun _ _ _ _ => encodeQuad_err_clean_or_broken)
    (fun _ hwf => quadOp_follows False (posn_of_valid hv) h2 exc hwf (fun h => h.elim))

/-- The loop is the loop over the statements taken, followed — if it raised — by the call that raised. -/
theorem flatRun_taken (op : List Term → EncOp) : ∀ (ts : List (List Term)) (es : EncState),
    (flatRun es (stmtCmds op (takenOf op es ts))).2 = ((flatRun es (stmtCmds op ts)).2.1, none) ∧
    match (flatRun es (stmtCmds op ts)).2.2 with
    | none => (flatRun es (stmtCmds op ts)).1 = (flatRun es (stmtCmds op (takenOf op es ts))).1
    | some e =>
      ∃ t, op t (flatRun es (stmtCmds op (takenOf op es ts))).1 = ((flatRun es (stmtCmds op ts)).1, .error e) := by
  intro ts
  induction ts with
  | nil => exact fun es => ⟨rfl, rfl⟩
  | cons t ts ih =>
    intro es
    rw [takenOf, stmtCmds_cons, flatRun_emit]
    rcases hop : op t es with ⟨es', e | rows⟩
    · exact ⟨rfl, t, hop⟩
    · obtain ⟨h1, h2⟩ := ih es'
      rw [stmtCmds_cons, flatRun_emit, hop]
      simp only [flatRun_cut]
      exact ⟨by rw [h1], h2⟩

/-- The quads one `Stream.graph` call writes: none if the graph name itself is refused. -/
def graphTakenOf (exc : PyErr) (es : EncState) (g : Term) (ts : List (List Term)) : List (List Term) :=
  match graphStartOp g es with
  | (_, .error _) => []
  | (es', .ok _) => (takenOf (tripleOp exc) es' ts).map (· ++ [g])

theorem quadWF_snoc {t : List Term} {g : Term} (h : quadWF (t ++ [g]) = true) :
    tripleWF t = true ∧ g.WFGraph = true := by
  obtain ⟨a, b, c, g', heq, ha, hb, hc, hg⟩ := quadWF_elim h
  obtain ⟨rfl, hgg⟩ := List.append_inj' (show t ++ [g] = [a, b, c] ++ [g'] from heq) rfl
  cases hgg
  exact ⟨by simp only [tripleWF, ha, hb, hc, Bool.and_self], hg⟩

/-- The events of the quads `t ++ [g]` when the reference decoder's open graph is `x` (which is the normal
    form of `g` as soon as there is a quad at all). -/
theorem graphTaken_events {g x : Term} (l : List (List Term)) (h : l ≠ [] → x = g.norm) :
    (l.map (· ++ [g])).map (fun q => Event.stmt (q.map Term.norm))
      = l.map (fun t => Event.stmt (t.map Term.norm ++ [x])) := by
  cases l with
  | nil => rfl
  | cons t ts =>
    have hx := h (by simp)
    subst hx
    simp only [List.map_map]
    apply List.map_congr_left
    intro q _
    simp only [Function.comp, List.map_append, List.map_cons, List.map_nil]

/-- One `Stream.graph` call of a catch-and-continue caller: what it writes is accepted by the reference
    decoder and denotes the quads taken; the writer stays in step or is broken. -/
theorem catchBlock_graph {P : Preset} {o : Options} (hv : P.valid = true) (h3 : o.physicalType = 3) (exc : PyErr) :
    CatchBlock P o quadWF (fun x : Term × List (List Term) => graphCmds exc x.1 x.2)
      (fun x es => graphTakenOf exc es x.1 x.2) := by
  intro ⟨g, ts⟩ es ss hJ hwf
  dsimp only at hwf ⊢
  have hs := RunsToN.isSeg False
  rw [graphCmds, flatRun_emit]
  rcases hJ with hI | hb
  · have hbr := TermEnc.beginRow_ok hI.inv.nb
    rcases graphStart_sim_gen (posn_of_valid hv) hI.inv hI.opts h3 g (Keys.sub.refl _) with
      ⟨⟨te', e, herr⟩, _⟩ | ⟨te', rows0, w, ss0, x, heq, hx, inv0, ho1, hrun1, _⟩
    · have hop : graphStartOp g es = ({ es with te := te' }, .error e) := by simp only [graphStartOp, hbr, herr]
      rw [hop]
      exact ⟨ss, by simpa [graphTakenOf, hop] using RunsTo.nil ss,
        .of_refused hI ((TStep.of_graph herr).from_startRow.imp (fun h => by rw [h]) id)⟩
    · have hop : graphStartOp g es = ({ es with te := te'.endRow }, .ok (rows0 ++ [Row.graphStart (some w)])) := by
        simp only [graphStartOp, hbr, heq]
      have htk : graphTakenOf exc es g ts
          = (takenOf (tripleOp exc) { es with te := te'.endRow } ts).map (· ++ [g]) := by
        simp only [graphTakenOf, hop]
      rw [htk] at hwf ⊢
      rw [hop]
      dsimp only
      generalize ({ es with te := te'.endRow } : EncState) = es1 at *
      have hwf3 : ∀ t ∈ takenOf (tripleOp exc) es1 ts, tripleWF t = true :=
        fun t ht => (quadWF_snoc (hwf _ (List.mem_map.mpr ⟨t, ht, rfl⟩))).1
      have hxg : takenOf (tripleOp exc) es1 ts ≠ [] → x = g.norm := fun hne => by
        obtain ⟨t, ht⟩ := List.exists_mem_of_ne_nil _ hne
        exact hx (quadWF_snoc (hwf _ (List.mem_map.mpr ⟨t, ht, rfl⟩))).2
      rw [graphTaken_events _ hxg]
      obtain ⟨hT, hsplit⟩ := flatRun_taken (tripleOp exc) ts es1
      obtain ⟨x', evs', hseg, _, hk, _⟩ :=
        tripleCmds_follows False (posn_of_valid hv) (Or.inr ⟨h3, rfl⟩) exc _ hwf3 (fun h => h.elim) es1
          ({ ss0 with graph := some x }, none) ⟨⟨inv0 _, ho1, fun h => h.elim⟩, fun _ h => Option.some.inj h ▸ rfl⟩
      rw [hT] at hseg hk
      obtain ⟨rfl, hK⟩ := hk rfl
      have hrun := hrun1.trans hseg.1
      rw [flatRun_append]
      cases herr : (flatRun es1 (stmtCmds (tripleOp exc) ts)).2.2 with
      | some e =>
        rw [herr] at hsplit
        obtain ⟨t, ht⟩ := hsplit
        exact ⟨x'.1, by simpa using hrun, .of_refused hK.1 (encodeTriple_err_clean_or_broken ht hK.1.inv.nb)⟩
      | none =>
        rw [herr] at hsplit
        obtain ⟨x2, _, hseg2, -, hk2, -⟩ :=
          (graphEndOp_follows False h3 x).then_cuts hs [.bounds] _ x' (hsplit ▸ hK)
        obtain ⟨rfl, hK2⟩ := hk2 rfl
        exact ⟨x2.1, by simpa using hrun.trans hseg2.1, Or.inl hK2.1.1⟩
  · have hop : graphStartOp g es = (es, .error .conformance) := by
      simp only [graphStartOp, TermEnc.beginRow_broken hb]
    rw [hop]
    exact ⟨ss, by simpa [graphTakenOf, hop] using RunsTo.nil ss, Or.inr hb⟩

end Jelly
