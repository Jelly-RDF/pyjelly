import JellyProofs.Lemmas.DecodeFrame
/-!
# The model of pyjelly's decoder follows the strict reference decoder (C04 / C16 helpers)

`mirror po ad ss` is the `DecState` holding the tables, repeated terms and open graph of the rules' state `ss`.
`Refines po ad P a r` says the decoder's result `r` refines the rules' result `a`: where the rules accept, `r` is the
same value on the mirror of the rules' new state (which satisfies `P`); where they reject with a class in `rejected`,
`r` is an exception — the accepting and the rejecting reading in one statement.

At table level pyjelly returns the table together with the outcome, so the relation there is `TRefines`
(`name_/prefix_/datatype_refines`, sharing `at_refines`) and, for entry rows, the `match` of `assign_refines`;
`iri_refines` is a four-way split, because the rules resolve the prefix first and pyjelly the name. From terms
upwards (`term_refines`/`qslot_refines`, `slot_refines`, `spo_refines`, `step_refines`) each level is the composition
of the levels below by `Refines.bind`; on the rules' side the chain carries `Spec.State.Inv` (all slots there, options
row and open graph unchanged). `run_refines` reads `step_refines` along `Spec.run` (the relation between the two
states is `R`), and `decoder_refines` puts the reader's set-up from the options row in front of it: C04 and C16 are
its two readings.
-/
namespace Jelly

/-- The `deque` has exactly `lookup_size` slots. -/
def LookupDec.WF (t : LookupDec) : Prop := t.data.length = t.size

theorem mkTable_WF (n : Nat) : (Spec.mkTable n).WF := by
  simp [LookupDec.WF, Spec.mkTable]

theorem assign_idx_ne_zero (id la : Nat) : (if (id == 0) = true then la + 1 else id) ≠ 0 := by
  split
  · omega
  · rename_i h; simpa using h

/-- An entry row: `assign_entry` follows `Spec.assign` on a table with all its slots. -/
theorem assign_refines {t : LookupDec} (hw : t.WF) (id : Nat) (v : String) :
    match Spec.assign t id v with
    | .ok t' => t'.WF ∧ t.assignEntry id v = .ok t'
    | .error _ => ∃ e, t.assignEntry id v = .error e := by
  unfold Spec.assign LookupDec.assignEntry
  have hi := assign_idx_ne_zero id t.lastAssigned
  generalize (if (id == 0) = true then t.lastAssigned + 1 else id) = i at hi ⊢
  have hw' : t.data.length = t.size := hw
  dsimp only
  by_cases hc : 1 ≤ i ∧ i ≤ t.size
  · rw [if_pos (by simpa using hc), if_pos (by omega)]
    exact ⟨by simp [LookupDec.WF, hw'], rfl⟩
  · rw [if_neg (by simpa using hc), if_neg (by omega)]
    exact ⟨_, rfl⟩

theorem slot_eq_dec {t : LookupDec} {i : Nat} (hw : t.WF) (hi : i ≠ 0) : Spec.slot t i = t.data[i - 1]? := by
  simp only [Spec.slot, LookupDec.WF] at *
  split
  · rfl
  · rename_i hc
    simp only [Bool.and_eq_true, decide_eq_true_eq, not_and] at hc
    symm
    rw [List.getElem?_eq_none_iff]
    omega

theorem WF_setReused {t : LookupDec} (hw : t.WF) (i : Nat) : ({ t with lastReused := i } : LookupDec).WF := hw

theorem ite_bne {α : Type} (a b : Nat) (x y : α) :
    (if (a != b) = true then x else y) = if (a == b) = true then y else x := by
  cases h : a == b <;> simp [bne, h]

/-- Refinement for a reference to a table entry: pyjelly returns the table and the outcome separately, and every
    class of rejection is one pyjelly shares. -/
def TRefines (a : Except Spec.Violation (LookupDec × String)) (r : LookupDec × Except PyErr String) : Prop :=
  match a with
  | .ok (t', s) => t'.WF ∧ r = (t', .ok s)
  | .error _ => ∃ t' e, r = (t', .error e)

/-- The common tail of the three resolvers (the `match` is written as in `Spec.resolveName`, `resolvePrefix`,
    `resolveDatatype`, which lets it stand for theirs): on a table with all its slots `at` reads what `Spec.slot`
    reads. -/
theorem at_refines {t : LookupDec} (hw : t.WF) {i : Nat} (hi : i ≠ 0) (v1 v2 : Spec.Violation) :
    TRefines (match Spec.slot t i with
      | none => .error v1
      | some none => .error v2
      | some (some s) => .ok ({ t with lastReused := i }, s)) (t.at i) := by
  rw [slot_eq_dec hw hi, LookupDec.at, if_neg (by simpa using hi)]
  rcases t.data[i - 1]? with _ | _ | s
  · exact ⟨_, _, rfl⟩
  · exact ⟨_, _, rfl⟩
  · exact ⟨hw, rfl⟩

theorem name_refines {t : LookupDec} (hw : t.WF) (id : Nat) :
    TRefines (Spec.resolveName t id) (t.nameTerm id) := by
  unfold Spec.resolveName LookupDec.nameTerm
  rw [ite_bne]
  have hi := assign_idx_ne_zero id t.lastReused
  generalize (if (id == 0) = true then t.lastReused + 1 else id) = i at hi ⊢
  dsimp only
  rw [if_neg (by simpa using hi)]
  exact at_refines hw hi _ _

theorem prefix_refines {t : LookupDec} (hw : t.WF) (id : Nat) :
    TRefines (Spec.resolvePrefix t id) (t.prefixTerm id) := by
  unfold Spec.resolvePrefix LookupDec.prefixTerm
  rw [ite_bne]
  generalize (if (id == 0) = true then t.lastReused else id) = i
  dsimp only
  by_cases hi : i = 0
  · subst hi
    exact ⟨hw, rfl⟩
  · rw [if_neg (by simpa using hi), if_neg (by simpa using hi)]
    exact at_refines hw hi _ _

theorem datatype_refines {t : LookupDec} (hw : t.WF) (id : Nat) :
    TRefines (Spec.resolveDatatype t id) (t.datatypeTerm id) := by
  unfold Spec.resolveDatatype LookupDec.datatypeTerm
  by_cases hi : id = 0
  · subst hi
    exact ⟨_, _, rfl⟩
  · rw [if_neg (by simpa using hi), if_neg (by simpa using hi)]
    exact at_refines hw hi _ _

/-- Each of the three tables has all its slots. -/
def Spec.State.WF (ss : Spec.State) : Prop := ss.names.WF ∧ ss.prefixes.WF ∧ ss.datatypes.WF

/-- The decoder state that mirrors a reference state (same tables, repeated terms, open graph). -/
def mirror (po : ParserOptions) (ad : AdapterKind) (ss : Spec.State) : DecState :=
  { opts := po, adapter := ad, names := ss.names, prefixes := ss.prefixes, datatypes := ss.datatypes,
    rep := ss.rep, graphId := ss.graph }

/-- What term resolution leaves alone in the reference state, as an invariant: the tables keep all their slots, the
    options row and the open graph stay `op` and `g`. -/
def Spec.State.Inv (op : Option Options) (g : Option Term) (ss : Spec.State) : Prop :=
  ss.WF ∧ ss.opts = op ∧ ss.graph = g

/-- The violation classes on which the decoder is guaranteed to raise as well: all that `Spec.step` can produce
    once the options are set, except the five where pyjelly is more lenient than the rules. The header classes
    (`noOptionsFirst` and those of `Spec.checkOptions`) are counted in idly; `step_refines` never meets them. -/
def Spec.Violation.rejected : Spec.Violation → Bool
  | .emptyLangtag | .misplacedTerm | .namespaceInV1 | .optionsChanged | .graphEndWithoutStart => false
  | _ => true

/-- The decoder's result `r` refines the rules' result `a` (head of this file). -/
def Refines {α : Type} (po : ParserOptions) (ad : AdapterKind) (P : Spec.State → Prop)
    (a : Except Spec.Violation (Spec.State × α)) (r : Except PyErr (DecState × α)) : Prop :=
  match a with
  | .ok (ss', x) => P ss' ∧ r = .ok (mirror po ad ss', x)
  | .error v => v.rejected = true → ∃ e, r = .error e

theorem Refines.bind {α β : Type} {po : ParserOptions} {ad : AdapterKind} {P Q : Spec.State → Prop}
    {a : Except Spec.Violation (Spec.State × α)} {r : Except PyErr (DecState × α)}
    {f : Spec.State × α → Except Spec.Violation (Spec.State × β)}
    {g : DecState × α → Except PyErr (DecState × β)} (h : Refines po ad P a r)
    (hk : ∀ ss' x, P ss' → Refines po ad Q (f (ss', x)) (g (mirror po ad ss', x))) :
    Refines po ad Q (a >>= f) (r >>= g) := by
  cases a with
  | error v =>
    intro hv
    obtain ⟨e, rfl⟩ := h hv
    exact ⟨e, rfl⟩
  | ok y =>
    obtain ⟨ss', x⟩ := y
    obtain ⟨hp, rfl⟩ := h
    exact hk ss' x hp

theorem Refines.ok {α : Type} {po : ParserOptions} {ad : AdapterKind} {P : Spec.State → Prop}
    {a : Except Spec.Violation (Spec.State × α)} {r : Except PyErr (DecState × α)}
    (h : Refines po ad P a r) {ss' : Spec.State} {x : α} (ha : a = .ok (ss', x)) :
    P ss' ∧ r = .ok (mirror po ad ss', x) := by
  subst ha
  exact h

theorem Refines.err {α : Type} {po : ParserOptions} {ad : AdapterKind} {P : Spec.State → Prop}
    {a : Except Spec.Violation (Spec.State × α)} {r : Except PyErr (DecState × α)}
    (h : Refines po ad P a r) {v : Spec.Violation} (ha : a = .error v) (hv : v.rejected = true) :
    ∃ e, r = .error e := by
  subst ha
  exact h hv

theorem Refines.lenient {α : Type} {po : ParserOptions} {ad : AdapterKind} {P : Spec.State → Prop}
    {r : Except PyErr (DecState × α)} {v : Spec.Violation} (hv : v.rejected = false) :
    Refines po ad P (.error v) r :=
  fun h => by rw [hv] at h; cases h

theorem iri_refines {po ad op g} {ss : Spec.State} (hi : ss.Inv op g) (p n : Nat) :
    Refines po ad (Spec.State.Inv op g) (Spec.resolveIri ss p n) ((mirror po ad ss).decodeIri p n) := by
  have hp := prefix_refines hi.1.2.1 p
  have hn := name_refines hi.1.1 n
  unfold Spec.resolveIri DecState.decodeIri
  dsimp only [mirror]
  -- the rules look at the prefix first, pyjelly at the name
  rcases hne : Spec.resolveName ss.names n with v | ⟨nt, nm⟩ <;> rw [hne] at hn
  · obtain ⟨t', e, he⟩ := hn
    rw [he]
    rcases Spec.resolvePrefix ss.prefixes p with v' | ⟨pt, pfx⟩ <;> exact fun _ => ⟨e, rfl⟩
  · rw [hn.2]
    rcases hpe : Spec.resolvePrefix ss.prefixes p with v' | ⟨pt, pfx⟩ <;> rw [hpe] at hp
    · obtain ⟨t', e, he⟩ := hp
      rw [he]
      exact fun _ => ⟨e, rfl⟩
    · rw [hp.2]
      exact ⟨⟨⟨hn.1, hp.1, hi.1.2.2⟩, hi.2⟩, rfl⟩

mutual
theorem term_refines {po ad op g} : ∀ (t : WTerm) (igp : Bool) (ss : Spec.State), ss.Inv op g →
    Refines po ad (Spec.State.Inv op g) (Spec.resolveTerm igp ss t) ((mirror po ad ss).decodeTerm true t)
  | .iri p n, igp, ss, hi => by
    rw [Spec.resolveTerm, DecState.decodeTerm_iri]
    exact (iri_refines hi p n).bind fun s1 x k1 => ⟨k1, rfl⟩
  | .bnode b, igp, ss, hi => ⟨hi, by rw [DecState.decodeTerm]⟩
  | .literal lex .plain, igp, ss, hi => ⟨hi, by rw [DecState.decodeTerm, DecState.decodeLiteral]⟩
  | .literal lex (.lang l), igp, ss, hi => by
    rw [Spec.resolveTerm, DecState.decodeTerm, DecState.decodeLiteral]
    by_cases hl : l = ""
    · subst hl
      exact .lenient rfl
    · rw [if_neg (by simpa using hl), if_pos (by simpa using hl)]
      exact ⟨hi, rfl⟩
  | .literal lex (.dt id), igp, ss, hi => by
    have hd := datatype_refines hi.1.2.2 id
    rw [Spec.resolveTerm, DecState.decodeTerm, DecState.decodeLiteral]
    dsimp only [mirror]
    rcases hde : Spec.resolveDatatype ss.datatypes id with v | ⟨dt', s⟩ <;> rw [hde] at hd
    · obtain ⟨t', e, he⟩ := hd
      rw [he]
      exact fun _ => ⟨e, rfl⟩
    · rw [hd.2]
      exact ⟨⟨⟨hi.1.1, hi.1.2.1, hd.1⟩, hi.2⟩, rfl⟩
  | .defaultGraph, igp, ss, hi => by
    rw [Spec.resolveTerm, DecState.decodeTerm]
    cases igp
    · exact .lenient rfl
    · exact ⟨hi, rfl⟩
  | .triple s p o, igp, ss, hi => by
    cases igp
    · rw [Spec.resolveTerm_triple, DecState.decodeTerm_triple]
      refine (qslot_refines s ss hi).bind fun s1 ts k1 => ?_
      refine (qslot_refines p s1 k1).bind fun s2 tp k2 => ?_
      exact (qslot_refines o s2 k2).bind fun s3 to k3 => ⟨k3, rfl⟩
    · rw [Spec.resolveTerm]
      exact .lenient rfl
theorem qslot_refines {po ad op g} : ∀ (w : Option WTerm) (ss : Spec.State), ss.Inv op g →
    Refines po ad (Spec.State.Inv op g) (Spec.resolveQuotedSlot ss w) ((mirror po ad ss).decodeQuotedSlot true w)
  | none, ss, hi => fun _ => ⟨_, by rw [DecState.decodeQuotedSlot]⟩
  | some t, ss, hi => by
    rw [Spec.resolveQuotedSlot, DecState.decodeQuotedSlot]
    exact term_refines t false ss hi
end

theorem qslot_err {po ad} : ∀ (w : Option WTerm) (ss : Spec.State) (v : Spec.Violation), ss.WF →
    Spec.resolveQuotedSlot ss w = .error v → v.rejected = true →
    ∃ e, (mirror po ad ss).decodeQuotedSlot true w = .error e :=
  fun w ss _ hw h hv => (qslot_refines w ss ⟨hw, rfl, rfl⟩).err h hv

theorem slot_refines {po ad op g} {ss : Spec.State} (hi : ss.Inv op g) (igp : Bool) (prev : Option Term)
    (w : Option WTerm) :
    Refines po ad (Spec.State.Inv op g) (Spec.resolveSlot igp ss prev w)
      ((mirror po ad ss).decodeSlot true prev w) := by
  unfold Spec.resolveSlot DecState.decodeSlot
  cases w with
  | some t => exact term_refines t igp ss hi
  | none =>
    cases prev with
    | none => exact fun _ => ⟨_, rfl⟩
    | some t => exact ⟨hi, rfl⟩

/-- The invariant does not look at the repeated terms, so it passes from `s1` to `{ s1 with rep := _ }` as it is. -/
theorem spo_refines {po ad op g} {ss : Spec.State} (hi : ss.Inv op g) (s p o : Option WTerm) :
    Refines po ad (Spec.State.Inv op g) (Spec.resolveSpo ss s p o) ((mirror po ad ss).decodeSpo true s p o) := by
  rw [Spec.resolveSpo, DecState.decodeSpo_eq]
  refine (slot_refines hi false _ s).bind fun s1 ts k1 => ?_
  refine (slot_refines (ss := { s1 with rep := { s1.rep with s := some ts } }) k1 false _ p).bind fun s2 tp k2 => ?_
  exact (slot_refines (ss := { s2 with rep := { s2.rep with p := some tp } }) k2 false _ o).bind
    fun s3 to k3 => ⟨k3, rfl⟩

/-- The adapter `adapterFor` picks for an options row the rules accept (`adapterFor_ok`). -/
def adapterOf (o : Options) : AdapterKind :=
  if o.physicalType == 1 then .triples else if o.physicalType == 2 then .quads else .graphs

/-- `R ss d`: the reference state `ss` (after a valid options row `o`) and the decoder state `d`
    agree: `d` was set up from `o`, and tables, repeated terms and the open graph coincide. `d` occurs on the
    right too because the rules know nothing of the framing: `delimited` is whatever `d` was opened with. -/
def R (ss : Spec.State) (d : DecState) : Prop :=
  ∃ o, ss.opts = some o ∧ Spec.checkOptions o = .ok () ∧ ss.WF ∧
    d = mirror (parserOptionsOf o d.opts.delimited) (adapterOf o) ss

theorem R.tables {ss : Spec.State} {d : DecState} (h : R ss d) :
    ss.names = d.names ∧ ss.prefixes = d.prefixes ∧ ss.datatypes = d.datatypes ∧
    ss.rep = d.rep ∧ ss.graph = d.graphId := by
  obtain ⟨o, -, -, -, hd⟩ := h
  rw [hd]
  exact ⟨rfl, rfl, rfl, rfl, rfl⟩

theorem R_mirror {o : Options} {dl : Bool} {ss : Spec.State} (ho : ss.opts = some o)
    (hc : Spec.checkOptions o = .ok ()) (hw : ss.WF) :
    R ss (mirror (parserOptionsOf o dl) (adapterOf o) ss) :=
  ⟨o, ho, hc, hw, rfl⟩

@[simp] theorem mirror_adapter {po ad ss} : (mirror po ad ss).adapter = ad := rfl
@[simp] theorem mirror_graphId {po ad ss} : (mirror po ad ss).graphId = ss.graph := rfl

theorem adapterOf_cases {o : Options} (hp : o.physicalType = 1 ∨ o.physicalType = 2 ∨ o.physicalType = 3) :
    (o.physicalType = 1 ∧ adapterOf o = .triples) ∨ (o.physicalType = 2 ∧ adapterOf o = .quads) ∨
      (o.physicalType = 3 ∧ adapterOf o = .graphs) := by
  unfold adapterOf
  rcases hp with h | h | h <;> rw [h] <;> simp

theorem validateOptions_self {o : Options} {dl : Bool} {ad : AdapterKind} {ss : Spec.State}
    (hc : Spec.checkOptions o = .ok ()) :
    (mirror (parserOptionsOf o dl) ad ss).validateOptions o = .ok () := by
  obtain ⟨-, -, -, -, hv⟩ := (Spec.checkOptions_iff _).1 hc
  have hver : (if o.version ≥ 2 then 2 else 1) ≥ o.version := by split <;> omega
  simp [DecState.validateOptions, mirror, parserOptionsOf, hver]

/-- An entry row touches one table: `mk` puts the new table back into the rules' state (the `match` is written as in
    `DecState.decodeRow`, which lets `rfl` identify the decoder's side). -/
theorem entry_refines {po ad} {P : Spec.State → Prop} {t : LookupDec} (hw : t.WF) (id : Nat) (v : String)
    (mk : LookupDec → Spec.State) (hP : ∀ t', t'.WF → P (mk t')) {r : Except PyErr (DecState × Option Event)}
    (hr : r = match t.assignEntry id v with
      | .error e => .error e
      | .ok t' => .ok (mirror po ad (mk t'), none)) :
    Refines po ad P (Spec.assign t id v >>= fun t' => pure (mk t', none)) r := by
  have ha := assign_refines hw id v
  subst hr
  rcases hae : Spec.assign t id v with e | t' <;> rw [hae] at ha
  · obtain ⟨e', he⟩ := ha
    rw [he]
    exact fun _ => ⟨e', rfl⟩
  · rw [ha.2]
    exact ⟨hP t' ha.1, rfl⟩

theorem step_refines {o : Options} {dl : Bool} {ss : Spec.State} (ho : ss.opts = some o)
    (hc : Spec.checkOptions o = .ok ()) (hw : ss.WF) (r : Row) :
    Refines (parserOptionsOf o dl) (adapterOf o) (fun ss' => ss'.WF ∧ ss'.opts = some o)
      (Spec.step ss r) ((mirror (parserOptionsOf o dl) (adapterOf o) ss).decodeRow true r) := by
  -- the rules dispatch on the physical type, pyjelly on the adapter picked for it: the statement rows split on both at once
  have hpa := adapterOf_cases ((Spec.checkOptions_iff _).1 hc).1
  have hi : ss.Inv (some o) ss.graph := ⟨hw, ho, rfl⟩
  unfold Spec.step
  rw [ho]
  cases r with
  | empty => exact fun _ => ⟨_, rfl⟩
  | options o' =>
    show Refines _ _ _ (if o' == o then _ else _) _
    by_cases heq : o' = o
    · subst heq
      rw [if_pos (beq_self_eq_true _)]
      exact ⟨⟨hw, ho⟩, by rw [DecState.decodeRow, validateOptions_self hc]⟩
    · rw [if_neg (mt eq_of_beq heq)]
      exact .lenient rfl
  | nameEntry id v =>
    exact entry_refines hw.1 id v (fun t => { ss with opts := some o, names := t })
      (fun _ h => ⟨⟨h, hw.2⟩, rfl⟩) rfl
  | prefixEntry id v =>
    exact entry_refines hw.2.1 id v (fun t => { ss with opts := some o, prefixes := t })
      (fun _ h => ⟨⟨hw.1, h, hw.2.2⟩, rfl⟩) rfl
  | dtEntry id v =>
    exact entry_refines hw.2.2 id v (fun t => { ss with opts := some o, datatypes := t })
      (fun _ h => ⟨⟨hw.1, hw.2.1, h⟩, rfl⟩) rfl
  | triple s p ob =>
    show Refines _ _ _ (if o.physicalType == 1 then _ else if o.physicalType == 3 then _ else _) _
    rw [DecState.decodeRow_triple, mirror_adapter]
    rcases hpa with ⟨hp, ha⟩ | ⟨hp, ha⟩ | ⟨hp, ha⟩ <;> rw [hp, ha]
    · exact (spo_refines hi s p ob).bind fun s1 x k1 => ⟨⟨k1.1, k1.2.1⟩, rfl⟩
    · exact fun _ => Except.bind_raises fun x _ => ⟨_, rfl⟩
    · show Refines _ _ _ (match ss.graph with | none => _ | some g => _) _
      cases hg : ss.graph with
      | none =>
        refine fun _ => Except.bind_raises fun x hx => ?_
        have hc' : x.1.graphId = none := (DecState.decodeSpo_kept hx).1.1.trans hg
        exact ⟨_, by dsimp only; rw [hc']⟩
      | some g =>
        refine (spo_refines hi s p ob).bind fun s1 x k1 => ?_
        have hg1 : s1.graph = some g := k1.2.2.trans hg
        exact ⟨⟨k1.1, k1.2.1⟩, by dsimp only; rw [mirror_graphId, hg1]; rfl⟩
  | quad s p ob g =>
    show Refines _ _ _ (if o.physicalType == 2 then _ else _) _
    rw [DecState.decodeRow_quad, mirror_adapter]
    rcases hpa with ⟨hp, ha⟩ | ⟨hp, ha⟩ | ⟨hp, ha⟩ <;> rw [hp, ha]
    · exact fun _ => Except.bind_raises fun x _ => Except.bind_raises fun y _ => ⟨_, rfl⟩
    · refine (spo_refines hi s p ob).bind fun s1 x k1 => ?_
      exact (slot_refines k1 true _ g).bind fun s2 tg k2 => ⟨⟨k2.1, k2.2.1⟩, rfl⟩
    · exact fun _ => Except.bind_raises fun x _ => Except.bind_raises fun y _ => ⟨_, rfl⟩
  | graphStart g =>
    show Refines _ _ _ (if o.physicalType == 3 then _ else _) _
    cases g with
    | none => split <;> exact fun _ => ⟨_, rfl⟩
    | some t =>
      rw [DecState.decodeRow_graphStart, mirror_adapter]
      rcases hpa with ⟨hp, ha⟩ | ⟨hp, ha⟩ | ⟨hp, ha⟩ <;> rw [hp, ha]
      · exact fun _ => Except.bind_raises fun x _ => ⟨_, rfl⟩
      · exact fun _ => Except.bind_raises fun x _ => ⟨_, rfl⟩
      · exact (term_refines t true ss hi).bind fun s1 tg k1 => ⟨⟨k1.1, k1.2.1⟩, rfl⟩
  | graphEnd =>
    show Refines _ _ _ (if o.physicalType == 3 then _ else _) _
    rw [DecState.decodeRow, mirror_adapter]
    rcases hpa with ⟨hp, ha⟩ | ⟨hp, ha⟩ | ⟨hp, ha⟩ <;> rw [hp, ha]
    · exact fun _ => ⟨_, rfl⟩
    · exact fun _ => ⟨_, rfl⟩
    · show Refines _ _ _ (match ss.graph with | none => _ | some _ => _) _
      cases hg : ss.graph with
      | none => exact .lenient rfl
      | some g => exact ⟨⟨hw, rfl⟩, rfl⟩
  | «namespace» name iri =>
    show Refines _ _ _ (if o.version < 2 then _ else _) _
    rw [DecState.decodeRow_namespace]
    by_cases hv : o.version < 2
    · rw [if_pos hv]
      exact .lenient rfl
    · rw [if_neg hv]
      exact (iri_refines hi _ _).bind fun s1 x k1 => ⟨⟨k1.1, k1.2.1⟩, rfl⟩

/-- Both readings of `step_refines` along a run. From states in `R`: where the rules accept all of `rows`, the decoder
    delivers the same events and ends in `R`; where they stop at a row with a class in `rejected`, the decoder has
    delivered the same events and raises at that row. -/
theorem run_refines {ss : Spec.State} {d : DecState} (hR : R ss d) (rows : List Row) (acc : List Event) (i : Nat) :
    match Spec.run ss rows acc i with
    | (st, evs, none) => ∃ d', d.decodeRows true rows acc = (d', evs, none) ∧ R st d'
    | (_, evs, some (_, v)) => v.rejected = true → ∃ d' e, d.decodeRows true rows acc = (d', evs, some e) := by
  obtain ⟨o, ho, hc, hw, hd⟩ := hR
  generalize d.opts.delimited = dl at hd
  subst hd
  fun_induction Spec.run ss rows acc i with
  | case1 ss acc i => exact ⟨_, rfl, R_mirror ho hc hw⟩  -- no row left
  | case2 ss r rs acc i v h =>  -- the row is rejected
    intro hv
    obtain ⟨e, he⟩ := (step_refines (dl := dl) ho hc hw r).err h hv
    exact ⟨_, e, by rw [DecState.decodeRows, he]⟩
  | case3 ss r rs acc i ss' ev h ih =>  -- the row is accepted
    obtain ⟨⟨w1, o1⟩, e1⟩ := (step_refines (dl := dl) ho hc hw r).ok h
    rw [DecState.decodeRows, e1]
    exact ih o1 w1

theorem initState_WF (o : Options) : (Spec.initState o).WF :=
  ⟨mkTable_WF _, mkTable_WF _, mkTable_WF _⟩

theorem runRows_header {o : Options} {rest : List Row} {st : Spec.State} {evs : List Event}
    (h : Spec.runRows (.options o :: rest) = (st, evs, none)) :
    Spec.checkOptions o = .ok () ∧ Spec.run (Spec.initState o) rest [] 1 = (st, evs, none) := by
  rw [Spec.runRows, Spec.run, Spec.step_options] at h
  cases hc : Spec.checkOptions o with
  | error e =>
    rw [hc] at h
    cases h
  | ok u =>
    rw [hc] at h
    exact ⟨rfl, h⟩

theorem optionsFromFrame_ok {o : Options} {rest : List Row} {delimited : Bool}
    (hc : Spec.checkOptions o = .ok ()) :
    optionsFromFrame { rows := .options o :: rest } delimited = .ok (parserOptionsOf o delimited) := by
  obtain ⟨h123, hp, hn, -, -⟩ := (Spec.checkOptions_iff _).1 hc
  rw [optionsFromFrame_options rfl,
    validateTypes_of_compatible ((Spec.typePairAllowed_iff (by omega)).1 hp).1]
  exact if_neg (by simp only [MIN_NAME_LOOKUP_SIZE]; omega)

theorem adapterFor_ok {o : Options} (hc : Spec.checkOptions o = .ok ()) :
    adapterFor o.physicalType = .ok (adapterOf o) := by
  obtain ⟨hp, -⟩ := (Spec.checkOptions_iff _).1 hc
  unfold adapterFor adapterOf
  rcases hp with hp | hp | hp <;> rw [hp] <;> rfl

/-- The strongest form of C04 / C16 at row level. From an options row `o` that the rules accept (tables within what
    the reader supports) `get_options_and_frames` + `parse_jelly_flat` set up the mirror of the rules' state after `o`;
    that decoder passes over `o` and then follows the rules through `rest` (`run_refines`): the same events, and an
    exception at the row where the rules stop with a class in `rejected`. -/
theorem decoder_refines {o : Options} (hc : Spec.checkOptions o = .ok ())
    (hsz : o.maxNames ≤ MAX_LOOKUP_SIZE ∧ o.maxPrefixes ≤ MAX_LOOKUP_SIZE ∧ o.maxDatatypes ≤ MAX_LOOKUP_SIZE)
    (rest : List Row) (dl : Bool) :
    ∃ d0, optionsFromFrame { rows := .options o :: rest } dl = .ok (parserOptionsOf o dl) ∧
      adapterFor (parserOptionsOf o dl).physical = .ok (adapterOf o) ∧
      DecState.new (parserOptionsOf o dl) (adapterOf o) = .ok d0 ∧
      match Spec.run (Spec.initState o) rest [] 1 with
      | (_, evs, none) => ∃ d, d0.decodeRows true (.options o :: rest) [] = (d, evs, none)
      | (_, evs, some (_, v)) =>
        v.rejected = true → ∃ d e, d0.decodeRows true (.options o :: rest) [] = (d, evs, some e) := by
  refine ⟨mirror (parserOptionsOf o dl) (adapterOf o) (Spec.initState o), optionsFromFrame_ok hc, adapterFor_ok hc,
    (DecState.new_eq _ _).trans (if_pos hsz), ?_⟩
  rw [DecState.decodeRows, DecState.decodeRow, validateOptions_self hc]
  have h := run_refines (R_mirror (dl := dl) rfl hc (initState_WF o)) rest [] 1
  split at h
  · exact h.imp fun _ h => h.1
  · exact h

theorem R_iff {ss : Spec.State} {d : DecState} :
    R ss d ↔ ∃ o, ss.opts = some o ∧ Spec.checkOptions o = .ok () ∧
      d.opts = parserOptionsOf o d.opts.delimited ∧ d.adapter = adapterOf o ∧
      ss.names = d.names ∧ ss.prefixes = d.prefixes ∧ ss.datatypes = d.datatypes ∧
      d.names.data.length = d.names.size ∧ d.prefixes.data.length = d.prefixes.size ∧
      d.datatypes.data.length = d.datatypes.size ∧ ss.rep = d.rep ∧ ss.graph = d.graphId := by
  constructor
  · rintro ⟨o, ho, hc, hw, hd⟩
    refine ⟨o, ho, hc, ?_⟩
    generalize d.opts.delimited = dl at hd
    subst hd
    exact ⟨rfl, rfl, rfl, rfl, rfl, hw.1, hw.2.1, hw.2.2, rfl, rfl⟩
  · rintro ⟨o, ho, hc, h1, h2, h3, h4, h5, h6, h7, h8, h9, h10⟩
    refine ⟨o, ho, hc, ?_, ?_⟩
    · rw [← h3, ← h4, ← h5] at *
      exact ⟨h6, h7, h8⟩
    · obtain ⟨po, ad, dn, dp, dd, dr, dg⟩ := d
      simp only at h1 h2 h3 h4 h5 h9 h10
      simp only [mirror]
      rw [← h1, ← h2, h3, h4, h5, h9, h10]

end Jelly
