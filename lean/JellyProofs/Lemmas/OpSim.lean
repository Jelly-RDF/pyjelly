import JellyProofs.Lemmas.StmtSim
import JellyProofs.Lemmas.SerRows
import JellyProofs.Lemmas.Follows
/-!
# The encoder operations and command blocks of the serializers, followed by the reference decoder

The decoder side of a run is the reference decoder's state together with the audit's "graph closed last"
(`DSide`); `RunsToN N` is the segment relation of `Follows`: the reference decoder accepts the rows, and — for
normal statements, `N` — the audit counts nothing over them. Each encoder operation is a `Follows` of one command
(`Follows.of_keys`, from the `_sim_gen` theorems of `StmtSim.lean`); the command blocks of the loops are composed
with `Follows.append` / `Follows.flatMap`.
-/
namespace Jelly

theorem tripleWF_elim {t : List Term} (h : tripleWF t = true) :
    ∃ s p o, t = [s, p, o] ∧ s.WF = true ∧ p.WF = true ∧ o.WF = true := by
  match t, h with
  | [s, p, o], h =>
    simp only [tripleWF, Bool.and_eq_true] at h
    exact ⟨s, p, o, rfl, h.1.1, h.1.2, h.2⟩
  | [], h => simp [tripleWF] at h
  | [_], h => simp [tripleWF] at h
  | [_, _], h => simp [tripleWF] at h
  | _ :: _ :: _ :: _ :: _, h => simp [tripleWF] at h

theorem quadWF_elim {t : List Term} (h : quadWF t = true) :
    ∃ s p o g, t = [s, p, o, g] ∧ s.WF = true ∧ p.WF = true ∧ o.WF = true ∧ g.WFGraph = true := by
  match t, h with
  | [s, p, o, g], h =>
    simp only [quadWF, Bool.and_eq_true] at h
    obtain ⟨⟨⟨hs, hp⟩, ho⟩, hg⟩ := h
    exact ⟨s, p, o, g, rfl, hs, hp, ho, hg⟩
  | [], h => simp [quadWF] at h
  | [_], h => simp [quadWF] at h
  | [_, _], h => simp [quadWF] at h
  | [_, _, _], h => simp [quadWF] at h
  | _ :: _ :: _ :: _ :: _ :: _, h => simp [quadWF] at h

theorem posn_of_valid {P : Preset} (hv : P.valid = true) : 0 < P.maxNames :=
  Nat.lt_of_lt_of_le (by decide) ((Preset.valid_iff P).1 hv)

/-- The terms fit the tables: some key set with at most `maxSize` distinct keys per table covers them. -/
def TermFits (P : Preset) (ts : List Term) : Prop :=
  ∃ T, TFits P T ∧ ∀ t ∈ ts, (termKeys (P.maxPrefixes != 0) t).sub T

/-- A well-formed triple (as a 3-element list) that fits. -/
def TripleOK (P : Preset) (t : List Term) : Prop :=
  ∃ a b c, t = [a, b, c] ∧ a.WF = true ∧ b.WF = true ∧ c.WF = true ∧ TermFits P [a, b, c]

theorem TripleOK.wf {P : Preset} {t : List Term} (h : TripleOK P t) : tripleWF t = true := by
  obtain ⟨a, b, c, rfl, ha, hb, hc, _⟩ := h
  simp [tripleWF, ha, hb, hc]

theorem TripleOK.fits {P : Preset} {t : List Term} (h : TripleOK P t) : TermFits P t := by
  obtain ⟨a, b, c, rfl, -, -, -, hf⟩ := h
  exact hf

theorem TermFits.mono {P : Preset} {ts ts' : List Term} (h : TermFits P ts) (hs : ∀ t ∈ ts', t ∈ ts) :
    TermFits P ts' := by
  obtain ⟨T, hf, hk⟩ := h
  exact ⟨T, hf, fun t ht => hk t (hs t ht)⟩

def stmtKeys (P : Preset) (terms : List Term) : Keys :=
  { n := (terms.flatMap Term.iris).map (nameKey (P.maxPrefixes != 0)),
    p := (terms.flatMap Term.iris).map prefixKey,
    d := terms.flatMap Term.dts }

theorem termKeys_sub_stmtKeys {P : Preset} {terms : List Term} {t : Term} (ht : t ∈ terms) :
    (termKeys (P.maxPrefixes != 0) t).sub (stmtKeys P terms) := by
  refine ⟨?_, ?_, ?_⟩
  · intro k hk
    obtain ⟨i, hi, rfl⟩ := List.mem_map.mp hk
    exact List.mem_map.mpr ⟨i, List.mem_flatMap.mpr ⟨t, ht, hi⟩, rfl⟩
  · intro k hk
    obtain ⟨i, hi, rfl⟩ := List.mem_map.mp hk
    exact List.mem_map.mpr ⟨i, List.mem_flatMap.mpr ⟨t, ht, hi⟩, rfl⟩
  · intro k hk
    exact List.mem_flatMap.mpr ⟨t, ht, hk⟩

theorem TFits.of_stmtFits {P : Preset} {terms : List Term} (hv : P.valid = true)
    (h : stmtFits P terms = true) : TFits P (stmtKeys P terms) := by
  have hposn := posn_of_valid hv
  simp only [stmtFits, Bool.and_eq_true, Bool.or_eq_true] at h
  obtain ⟨h1, h2⟩ := h
  refine ⟨hposn, ?_, ?_, ?_, ?_⟩
  · by_cases hp : P.maxPrefixes = 0
    · have hb : (P.maxPrefixes == 0) = true := by simp [hp]
      simp only [hb, if_true, decide_eq_true_eq] at h1
      apply Fits.of_eraseDups
      have hid : nameKey false = id := by funext i; simp [nameKey]
      have : (stmtKeys P terms).n = terms.flatMap Term.iris := by
        simp [stmtKeys, hp, hid]
      rw [this]; exact h1
    · have hb : (P.maxPrefixes == 0) = false := by simp [hp]
      simp only [hb, Bool.false_eq_true, if_false, Bool.and_eq_true, decide_eq_true_eq] at h1
      apply Fits.of_eraseDups
      have hid : nameKey true = fun i => (splitIri i).2 := by funext i; simp [nameKey]
      have hpb : (P.maxPrefixes != 0) = true := by simp [hp]
      have : (stmtKeys P terms).n = (terms.flatMap Term.iris).map (fun i => (splitIri i).2) := by
        simp only [stmtKeys, hpb, hid]
      rw [this]; exact h1.2
  · intro hpos
    have hb : (P.maxPrefixes == 0) = false := by simp; omega
    simp only [hb, Bool.false_eq_true, if_false, Bool.and_eq_true, decide_eq_true_eq] at h1
    apply Fits.of_eraseDups
    exact h1.1
  · rcases h2 with h2 | h2
    · have : (stmtKeys P terms).d = [] := by simpa [stmtKeys] using h2
      intro l _ hsub
      rw [this] at hsub
      cases l with
      | nil => simp
      | cons a _ => exact absurd (hsub a List.mem_cons_self) (by simp)
    · simp only [decide_eq_true_eq] at h2
      exact Fits.of_eraseDups h2.2
  · intro hne
    rcases h2 with h2 | h2
    · exfalso; apply hne; simpa [stmtKeys] using h2
    · have := h2.1
      simp only [bne_iff_ne, ne_eq] at this
      omega

theorem TermFits.of_stmtFits {P : Preset} (hv : P.valid = true) {t : List Term} (h : stmtFits P t = true) :
    TermFits P t :=
  ⟨_, TFits.of_stmtFits hv h, fun _ ht => termKeys_sub_stmtKeys ht⟩

/-- All terms of a statement are fixed by `Term.norm`. -/
def NormalStmt (t : List Term) : Prop := ∀ x ∈ t, x.norm = x

theorem normalStmt4 {s p o g : Term} (h : NormalStmt [s, p, o, g]) :
    s.norm = s ∧ p.norm = p ∧ o.norm = o ∧ g.norm = g :=
  ⟨h s (by simp), h p (by simp), h o (by simp), h g (by simp)⟩

/-- The reference decoder's state and the audit's "graph closed last". -/
abbrev DSide := Spec.State × Option Term

/-- The decoder follows the rows and — when the statements are normal (`N`) — the audit counts nothing. `N` is a
    switch: instantiated with `False` the audit is not followed (C03, C18, C20), with `True` it is (C19). -/
def RunsToN (N : Prop) (x : DSide) (rows : List Row) (x' : DSide) (evs : List Event) : Prop :=
  RunsTo x.1 rows x'.1 evs ∧
    (N → ∀ a rest, Spec.runAudit x.1 x.2 a (rows ++ rest) = Spec.runAudit x'.1 x'.2 a rest)

theorem RunsToN.isSeg (N : Prop) : IsSeg (RunsToN N) where
  nil x := ⟨RunsTo.nil x.1, fun _ _ _ => rfl⟩
  trans h₁ h₂ := ⟨h₁.1.trans h₂.1, fun hN a rest => by rw [List.append_assoc, h₁.2 hN, h₂.2 hN]⟩

/-- In step with the reference decoder; under `N` also with its audit (tables mirrored exactly, repeated terms
    normal). -/
structure InvN (N : Prop) (P : Preset) (o : Options) (es : EncState) (ss : Spec.State) : Prop where
  inv : Inv P es ss
  opts : ss.opts = some o
  aud : N → XM es.te ss ∧ RepN es.rep

/-- … and the reference decoder has the graph `og` open (`none`: nothing is said about its graph). -/
def InStep (N : Prop) (P : Preset) (o : Options) (og : Option Term) (es : EncState) (x : DSide) : Prop :=
  InvN N P o es x.1 ∧ ∀ g ∈ og, x.1.graph = some g

/-- One encoder operation over the terms `ts`, from the statement-level theorems: for every key set `T` that covers
    `ts` the call is refused, and `T` does not fit, or it is accepted and followed. The refused branch is used with
    the caller's key set (whatever witnesses `TermFits`), the accepted one instantiates `T := stmtKeys P ts`. -/
theorem Follows.of_keys {N : Prop} {P : Preset} {ts : List Term} {op : EncOp} {evs : List Event}
    {I K : EncState → DSide → Prop}
    (h : ∀ es x, I es x → ∀ T : Keys, (∀ y ∈ ts, (termKeys (P.maxPrefixes != 0) y).sub T) →
      (¬ TFits P T ∧ ∃ es' e, op es = (es', .error e)) ∨
      ∃ es' rows, op es = (es', .ok rows) ∧ ∃ x', RunsToN N x rows x' evs ∧ K es' x') :
    Follows (RunsToN N) I K [.emit op] evs (TermFits P ts) := by
  refine Follows.emit (RunsToN.isSeg N) ?_ ?_
  · intro es x es' e hI hop ⟨T, hf, hk⟩
    rcases h es x hI T hk with ⟨hnf, -⟩ | ⟨_, _, heq, -⟩
    · exact hnf hf
    · rw [hop] at heq; cases heq
  · intro es x es' rows hI hop
    rcases h es x hI (stmtKeys P ts) (fun _ hy => termKeys_sub_stmtKeys hy) with
      ⟨-, _, _, herr⟩ | ⟨es1, rows1, heq, hok⟩
    · rw [hop] at herr; cases herr
    · rw [hop] at heq; cases heq; exact hok

/-- `encodeTriple` on a TRIPLES stream (`og = none`) or inside the open graph of a GRAPHS stream: the statement row
    is one more step of the reference decoder and of its audit. -/
theorem tripleOp_follows (N : Prop) {P : Preset} {o : Options} (hpn : 0 < P.maxNames) {og : Option Term}
    (hph : (o.physicalType = 1 ∧ og = none) ∨ (o.physicalType = 3 ∧ og.isSome = true)) (exc : PyErr)
    {t : List Term} (hwf : tripleWF t = true) (hn : N → NormalStmt t) :
    Follows (RunsToN N) (InStep N P o og) (InStep N P o og) [.emit (tripleOp exc t)]
      [Event.stmt (t.map Term.norm ++ og.toList)] (TermFits P t) := by
  obtain ⟨a, b, c, rfl, ha, hb, hc⟩ := tripleWF_elim hwf
  refine Follows.of_keys fun es x hI T hk => ?_
  rcases encodeTriple_sim_gen (T := T) hpn hI.1.inv (by rw [hI.1.opts]; simp) exc a b c ha hb hc
      (hk a (by simp)) (hk b (by simp)) (hk c (by simp)) with
    h | ⟨es', rows, ws, wp, wo, ssE, ss', heq, hres, sim⟩
  · exact Or.inl h
  have hstep : Spec.step ssE (Row.triple ws wp wo)
      = .ok (ss', some (Event.stmt ([a.norm, b.norm, c.norm] ++ og.toList))) :=
    step_triple (sim.frame.opts.trans hI.1.opts) (hph.imp (fun ⟨h, e⟩ => ⟨h, by rw [e]; rfl⟩) (fun ⟨h, e⟩ => by
      obtain ⟨gn, rfl⟩ := Option.isSome_iff_exists.mp e
      exact ⟨h, gn, sim.frame.graph.trans (hI.2 gn rfl), rfl⟩)) hres
  refine Or.inr ⟨es', _, heq, (ss', none), ⟨RunsTo.of_row sim.run hstep, fun hN a rest => ?audit⟩,
    ⟨sim.inv, sim.opts.trans hI.1.opts, fun hN => ?mirror⟩, fun g hg => sim.graph.trans (hI.2 g hg)⟩
  all_goals
    obtain ⟨xm, rn⟩ := hI.1.aud hN
    obtain ⟨rn', hzero⟩ := (sim.aud xm).quiet rn (hn hN)
  case audit =>
    rw [List.append_assoc, (sim.aud xm).entries, List.singleton_append]
    simp only [Spec.runAudit, hstep, hzero]
  case mirror => exact ⟨(sim.aud xm).xm, rn'⟩

theorem triple_run3 {P : Preset} {T : Keys} (hf : TFits P T) {es : EncState} {ss : Spec.State}
    (inv : Inv P es ss) {o : Options} (hopt : ss.opts = some o) (h3 : o.physicalType = 3)
    {gn : Term} (hgr : ss.graph = some gn)
    (exc : PyErr) (s p ob : Term)
    (hs : s.WF = true) (hp : p.WF = true) (hob : ob.WF = true)
    (ks : (termKeys (P.maxPrefixes != 0) s).sub T) (kp : (termKeys (P.maxPrefixes != 0) p).sub T)
    (ko : (termKeys (P.maxPrefixes != 0) ob).sub T) :
    ∃ es' rows ss', encodeTriple exc es [s, p, ob] = (es', .ok rows) ∧ Inv P es' ss' ∧
      ss'.opts = some o ∧ ss'.graph = some gn ∧
      ∀ rest acc i, Spec.run ss (rows ++ rest) acc i
        = Spec.run ss' rest (acc ++ [Event.stmt [s.norm, p.norm, ob.norm, gn]]) (i + rows.length) := by
  obtain ⟨es', rows, x', heq, hrun, hI'⟩ := (tripleOp_follows False hf.posn (og := some gn) (Or.inr ⟨h3, rfl⟩) exc
    (t := [s, p, ob]) (by simp [tripleWF, hs, hp, hob]) (fun h => h.elim)).of_fit (x := (ss, none))
    ⟨⟨inv, hopt, fun h => h.elim⟩, fun g hg => hgr.trans hg⟩ ⟨T, hf, by simp [ks, kp, ko]⟩
  exact ⟨es', rows, x'.1, heq, hI'.1.inv, hI'.1.opts, hI'.2 gn rfl, hrun.1⟩

theorem quadOp_follows (N : Prop) {P : Preset} {o : Options} (hpn : 0 < P.maxNames) (h2 : o.physicalType = 2)
    (exc : PyErr) {t : List Term} (hwf : quadWF t = true) (hn : N → NormalStmt t) :
    Follows (RunsToN N) (InStep N P o none) (InStep N P o none) [.emit (quadOp exc t)]
      [Event.stmt (t.map Term.norm)] (TermFits P t) := by
  obtain ⟨a, b, c, g, rfl, ha, hb, hc, hg⟩ := quadWF_elim hwf
  refine Follows.of_keys fun es x hI T hk => ?_
  rcases encodeQuad_sim_gen (T := T) hpn hI.1.inv (by rw [hI.1.opts]; simp) exc a b c g ha hb hc hg
      (hk a (by simp)) (hk b (by simp)) (hk c (by simp)) (hk g (by simp)) with
    h | ⟨es', rows, ws, wp, wo, wg, ssE, ss1, ss', heq, hres, hres4, sim⟩
  · exact Or.inl h
  have hstep := step_quad (sim.frame.opts.trans hI.1.opts) h2 hres hres4
  refine Or.inr ⟨es', _, heq, (_, x.2), ⟨RunsTo.of_row sim.run hstep, fun hN a rest => ?audit⟩,
    ⟨sim.inv, sim.opts.trans hI.1.opts, fun hN => ?mirror⟩, fun _ hg => nomatch hg⟩
  all_goals
    obtain ⟨xm, rn⟩ := hI.1.aud hN
    obtain ⟨rn', hzero⟩ := (sim.aud xm).quiet rn (hn hN)
  case audit =>
    rw [List.append_assoc, (sim.aud xm).entries, List.singleton_append]
    simp only [Spec.runAudit, hstep, hzero]
  case mirror => exact ⟨(sim.aud xm).xm, rn'⟩

theorem encodeQuad_sim_of_fits {P : Preset} {es : EncState} {ss : Spec.State} {o : Options}
    (hv : P.valid = true) (inv : Inv P es ss) (hopt : ss.opts = some o) (h2 : o.physicalType = 2)
    (exc : PyErr) (t : List Term) (hwf : quadWF t = true) (hfit : stmtFits P t = true) :
    ∃ es' rows ss', encodeQuad exc es t = (es', .ok rows) ∧ Inv P es' ss' ∧ ss'.opts = some o ∧
      ss'.graph = ss.graph ∧ RunsTo ss rows ss' [Event.stmt (t.map Term.norm)] := by
  obtain ⟨s, p, ob, g, rfl, hs, hp, hob, hg⟩ := quadWF_elim hwf
  rcases encodeQuad_sim_gen (T := stmtKeys P [s, p, ob, g]) (posn_of_valid hv) inv (by rw [hopt]; simp) exc s p ob g
      hs hp hob hg (termKeys_sub_stmtKeys (by simp)) (termKeys_sub_stmtKeys (by simp))
      (termKeys_sub_stmtKeys (by simp)) (termKeys_sub_stmtKeys (by simp)) with
    ⟨h, -⟩ | ⟨es', rows, ws, wp, wo, wg, ssE, ss1, ss', heq, hres, hres4, sim⟩
  · exact absurd (TFits.of_stmtFits hv hfit) h
  · exact ⟨es', _, _, heq, sim.inv, sim.opts.trans hopt, sim.graph,
      RunsTo.of_row sim.run (step_quad (sim.frame.opts.trans hopt) h2 hres hres4)⟩

/-- Under `N` the graph closed last is not `g`. -/
def BeforeGraph (N : Prop) (P : Preset) (o : Options) (g : Term) (es : EncState) (x : DSide) : Prop :=
  InStep N P o none es x ∧ (N → x.2 ≠ some g.norm)

/-- The graph closed last is `gn`. -/
def AfterGraph (N : Prop) (P : Preset) (o : Options) (gn : Term) (es : EncState) (x : DSide) : Prop :=
  InStep N P o none es x ∧ x.2 = some gn

theorem graphStartOp_follows (N : Prop) {P : Preset} {o : Options} (hpn : 0 < P.maxNames) (h3 : o.physicalType = 3)
    {g : Term} (hg : g.WFGraph = true) :
    Follows (RunsToN N) (BeforeGraph N P o g) (InStep N P o (some g.norm)) [.emit (graphStartOp g)] []
      (TermFits P [g]) := by
  refine Follows.of_keys fun es x hI T hk => ?_
  have hbr := TermEnc.beginRow_ok hI.1.1.inv.nb
  rcases graphStart_sim_gen (T := T) hpn hI.1.1.inv hI.1.1.opts h3 g (hk g (by simp)) with
    ⟨⟨te', e, herr⟩, hnf⟩ | ⟨te', rows, w, ss', x0, heq, hx, inv', ho', hrun, haud⟩
  · exact Or.inl ⟨hnf hg, { es with te := te' }, e, by simp only [graphStartOp, hbr, herr]⟩
  obtain rfl : x0 = g.norm := hx hg
  refine Or.inr ⟨{ es with te := te'.endRow }, rows ++ [Row.graphStart (some w)], by simp only [graphStartOp, hbr, heq],
    ({ ss' with graph := some g.norm }, none), ⟨hrun, fun hN a rest => ?audit⟩, ⟨inv' _, ho', fun hN => ?mirror⟩,
    fun _ hg => Option.some.inj hg ▸ rfl⟩
  all_goals
    obtain ⟨xm, rn⟩ := hI.1.1.aud hN
    obtain ⟨xm', haudit⟩ := haud xm
  case audit => exact haudit x.2 a rest (hI.2 hN)
  case mirror => exact ⟨xm' _, rn⟩

theorem graphEndOp_follows (N : Prop) {P : Preset} {o : Options} (h3 : o.physicalType = 3) (gn : Term) :
    Follows (RunsToN N) (InStep N P o (some gn)) (AfterGraph N P o gn) [.emit graphEndOp] [] True := by
  refine Follows.emit (RunsToN.isSeg N) (fun _ hop => by cases hop) ?_
  intro es x es' rows hI hop
  obtain ⟨rfl, rfl⟩ : es = es' ∧ [Row.graphEnd] = rows := by simpa [graphEndOp] using hop
  obtain ⟨inv', hrun, haud⟩ := graphEnd_sim_gen hI.1.inv hI.1.opts h3 (hI.2 gn rfl)
  exact ⟨({ x.1 with graph := none }, some gn), ⟨hrun, fun _ a rest => haud x.2 a rest⟩,
    ⟨⟨inv', hI.1.opts, fun hN => ⟨⟨(hI.1.aud hN).1.n, (hI.1.aud hN).1.p, (hI.1.aud hN).1.d⟩, (hI.1.aud hN).2⟩⟩,
      fun _ hg => nomatch hg⟩, rfl⟩

theorem TFits.nsSingle {P : Preset} (hv : P.valid = true) (iri : String) :
    TFits P { n := [nameKey (P.maxPrefixes != 0) iri], p := [prefixKey iri], d := [] } := by
  have hn := posn_of_valid hv
  refine ⟨hn, ?_, ?_, ?_, ?_⟩
  · apply Fits.of_eraseDups
    simp [List.eraseDups_cons]
    omega
  · intro hp
    apply Fits.of_eraseDups
    simp [List.eraseDups_cons]
    omega
  · apply Fits.of_eraseDups
    simp
  · intro h; exact absurd rfl h

/-- A successful namespace declaration (version-2 streams): the rows are accepted and denote the
    declaration. The IRI's keys must fit (`T` with `TFits`). -/
theorem namespace_run {P : Preset} {T : Keys} (hf : TFits P T) {es : EncState} {ss : Spec.State}
    (inv : Inv P es ss) {o : Options} (hopt : ss.opts = some o) (hver : 2 ≤ o.version)
    (name iri : String) (hkn : nameKey (P.maxPrefixes != 0) iri ∈ T.n) (hkp : prefixKey iri ∈ T.p) :
    ∃ te' rows ss', encodeNamespace es.te name iri = (te', .ok rows) ∧
      Inv P { es with te := te' } ss' ∧ ss'.opts = some o ∧ ss'.graph = ss.graph ∧
      RunsTo ss rows ss' [Event.ns name (.iri iri)] := by
  obtain ⟨te', rows, p, n, R', heq, sim, res⟩ :=
    (iriIndices_sim_gen hf.posn (inv.wft.tinv T) iri hkn hkp).resolve_left fun h => h.1 hf
  obtain ⟨ssE, runE, fE, mE, ha, hself⟩ := inv.ingest (by rw [hopt]; simp) sim
  have hres := res ssE ha
  rw [hself] at hres
  have hoE : ssE.opts = some o := fE.opts.trans hopt
  have hstep : Spec.step ssE (Row.namespace name (some (p, n)))
      = .ok (setLR ssE te', some (Event.ns name (.iri iri))) := by
    have hv2 : ¬ (o.version < 2) := by omega
    unfold Spec.step
    simp only [hoE, hv2, if_false, Option.getD, hres, bind, Except.bind, pure, Except.pure]
  exact ⟨te'.endRow, rows ++ [Row.namespace name (some (p, n))], setLR ssE te',
    by simp only [encodeNamespace, TermEnc.beginRow_ok inv.nb, heq],
    inv.after_row fE mE sim.inv.wft ssE.graph, hoE, fE.graph, RunsTo.of_row runE hstep⟩

/-- A namespace declaration (version-2 streams); the audit is not followed (`¬ N`). -/
theorem nsOp_follows {N : Prop} (hN : ¬ N) {P : Preset} {o : Options} (hv : P.valid = true) (hver : 2 ≤ o.version)
    (og : Option Term) (Q : Option Term → Prop) (name iri : String) :
    Follows (RunsToN N) (fun es x => InStep N P o og es x ∧ Q x.2) (fun es x => InStep N P o og es x ∧ Q x.2)
      [.emit (nsOp name iri)] [Event.ns name (.iri iri)] True := by
  have key : ∀ {es : EncState} {x : DSide}, InStep N P o og es x → _ := fun {es x} hI =>
    namespace_run (TFits.nsSingle hv iri) hI.1.inv hI.1.opts hver name iri (by simp) (by simp)
  refine Follows.emit (RunsToN.isSeg N) ?_ ?_
  · intro es x es' e hI hop
    obtain ⟨te', rows, ss', heq, _⟩ := key hI.1
    simp [nsOp, heq] at hop
  · intro es x es' rows hI hop
    obtain ⟨te', rows1, ss', heq, inv', ho', hg', hrun⟩ := key hI.1
    obtain ⟨rfl, rfl⟩ : ({ es with te := te' } : EncState) = es' ∧ rows1 = rows := by simpa [nsOp, heq] using hop
    exact ⟨(ss', x.2), ⟨hrun, fun h => absurd h hN⟩,
      ⟨⟨inv', ho', fun h => absurd h hN⟩, fun g hg => hg'.trans (hI.1.2 g hg)⟩, hI.2⟩

theorem stmtCmds_follows {σ : Type} {Seg : σ → List Row → σ → List Event → Prop} (hs : IsSeg Seg)
    {I : EncState → σ → Prop} {op : List Term → EncOp} {ev : List Term → Event} {fit : List Term → Prop}
    (ts : List (List Term)) (h : ∀ t ∈ ts, Follows Seg I I [.emit (op t)] [ev t] (fit t)) :
    Follows Seg I I (stmtCmds op ts) (ts.map ev) (∀ t ∈ ts, fit t) :=
  (Follows.flatMap hs ts _ _ _ fun t ht => (h t ht).then_cuts hs [.bounds]).of_evs_eq List.map_eq_flatMap.symm

section
variable (N : Prop) {P : Preset} {o : Options} (hpn : 0 < P.maxNames)
include hpn

theorem tripleCmds_follows {og : Option Term}
    (hph : (o.physicalType = 1 ∧ og = none) ∨ (o.physicalType = 3 ∧ og.isSome = true)) (exc : PyErr)
    (ts : List (List Term)) (hwf : ∀ t ∈ ts, tripleWF t = true) (hn : N → ∀ t ∈ ts, NormalStmt t) :
    Follows (RunsToN N) (InStep N P o og) (InStep N P o og) (stmtCmds (tripleOp exc) ts)
      (ts.map fun t => Event.stmt (t.map Term.norm ++ og.toList)) (∀ t ∈ ts, TermFits P t) :=
  stmtCmds_follows (RunsToN.isSeg N) ts fun t ht => tripleOp_follows N hpn hph exc (hwf t ht) (fun hN => hn hN t ht)

theorem quadCmds_follows (h2 : o.physicalType = 2) (exc : PyErr)
    (ts : List (List Term)) (hwf : ∀ t ∈ ts, quadWF t = true) (hn : N → ∀ t ∈ ts, NormalStmt t) :
    Follows (RunsToN N) (InStep N P o none) (InStep N P o none) (stmtCmds (quadOp exc) ts)
      (ts.map fun t => Event.stmt (t.map Term.norm)) (∀ t ∈ ts, TermFits P t) :=
  stmtCmds_follows (RunsToN.isSeg N) ts fun t ht => quadOp_follows N hpn h2 exc (hwf t ht) (fun hN => hn hN t ht)

theorem graphCmds_follows (h3 : o.physicalType = 3) (exc : PyErr) (g : Term) (ts : List (List Term))
    (hg : g.WFGraph = true) (hwf : ∀ t ∈ ts, tripleWF t = true) (hn : N → ∀ t ∈ ts, NormalStmt t) :
    Follows (RunsToN N) (BeforeGraph N P o g) (AfterGraph N P o g.norm) (graphCmds exc g ts)
      (ts.map fun t => Event.stmt (t.map Term.norm ++ [g.norm])) (TermFits P [g] ∧ ∀ t ∈ ts, TermFits P t) := by
  have hs := RunsToN.isSeg N
  have h1 := graphStartOp_follows N hpn h3 hg
  have h2 := tripleCmds_follows N hpn (og := some g.norm) (Or.inr ⟨h3, rfl⟩) exc ts hwf hn
  exact ((Follows.append hs h1 (Follows.append hs h2 ((graphEndOp_follows N h3 g.norm).then_cuts hs
    [.bounds]))).of_evs_eq (by simp)).weaken_fit fun hf => ⟨hf.1, hf.2, trivial⟩

def pendingEvs (cur : Option (Term × List (List Term))) : List Event :=
  match cur with
  | none => []
  | some (g, acc) => acc.map (fun t => Event.stmt (t.map Term.norm ++ [g.norm]))

/-- The graph the loop is collecting is well-formed (and normal under `N`). -/
def CurWF (cur : Option (Term × List (List Term))) : Prop :=
  ∀ c ∈ cur, c.1.WFGraph = true ∧ (∀ t ∈ c.2, tripleWF t = true) ∧ (N → c.1.norm = c.1 ∧ ∀ t ∈ c.2, NormalStmt t)

def CurFits (P : Preset) (cur : Option (Term × List (List Term))) : Prop :=
  ∀ c ∈ cur, TermFits P [c.1] ∧ ∀ t ∈ c.2, TermFits P t

/-- No graph open; under `N` the graph closed last is not the one being collected. -/
def BeforeCur (P : Preset) (o : Options) (cur : Option (Term × List (List Term))) (es : EncState) (x : DSide) : Prop :=
  InStep N P o none es x ∧ (N → match cur with | none => x.2 = none | some c => x.2 ≠ some c.1.norm)

theorem graphsCmds_follows (h3 : o.physicalType = 3) (stmts : List (List Term))
    (cur : Option (Term × List (List Term))) (hcur : CurWF N cur)
    (hwf : ∀ t ∈ stmts, quadWF t = true) (hn : N → ∀ t ∈ stmts, NormalStmt t) :
    Follows (RunsToN N) (BeforeCur N P o cur) (InStep N P o none) (graphsCmds cur stmts)
      (pendingEvs cur ++ stmts.map fun t => Event.stmt (t.map Term.norm))
      (CurFits P cur ∧ ∀ t ∈ stmts, TermFits P t) := by
  have hs := RunsToN.isSeg N
  have block : ∀ c : Term × List (List Term), CurWF N (some c) →
      Follows (RunsToN N) (BeforeCur N P o (some c)) (AfterGraph N P o c.1.norm) (graphCmds .runtimeError c.1 c.2)
        (pendingEvs (some c)) (CurFits P (some c)) := fun c hc =>
    (graphCmds_follows N hpn h3 .runtimeError c.1 c.2 (hc c rfl).1 (hc c rfl).2.1
      fun hN => ((hc c rfl).2.2 hN).2).weaken_fit fun hf => hf c rfl
  -- what a statement `[a, b, c, g]` contributes, whatever is being collected
  have stmt : ∀ {st : List Term} {rest : List (List Term)} {g : Term}, (∀ t ∈ st :: rest, quadWF t = true) →
      (N → ∀ t ∈ st :: rest, NormalStmt t) → stmtGraph? st = some g →
      g.WFGraph = true ∧ tripleWF (st.take 3) = true ∧ (N → g.norm = g ∧ NormalStmt (st.take 3)) ∧
      st.map Term.norm = (st.take 3).map Term.norm ++ [g.norm] ∧
      (TermFits P st → TermFits P [g] ∧ TermFits P (st.take 3)) := by
    intro st rest g hwf hn hg
    obtain ⟨a, b, c, g', rfl, ha, hb, hc, hg'⟩ := quadWF_elim (hwf st List.mem_cons_self)
    cases hg
    exact ⟨hg', by simp [tripleWF, ha, hb, hc], fun hN => ⟨(normalStmt4 (hn hN _ List.mem_cons_self)).2.2.2,
      fun x hx => hn hN _ List.mem_cons_self x (List.mem_of_mem_take (i := 3) hx)⟩, rfl,
      fun hf => ⟨hf.mono (by simp), hf.mono (by simp +contextual)⟩⟩
  fun_induction graphsCmds cur stmts with
  | case1 => -- nothing collected, nothing left
    exact ((Follows.nil hs).mono_pre fun _ _ h => h.1).weaken_fit fun _ => trivial
  | case2 g ts => -- the last graph
    exact (block (g, ts) hcur).mono (fun _ _ h => h) (fun _ _ h => h.1) (by simp) (fun hf => hf.1)
  | case3 cur st rest h => -- a statement without a graph term: not a quad
    obtain ⟨a, b, c, g, rfl, -⟩ := quadWF_elim (hwf st List.mem_cons_self)
    cases h
  | case4 st rest g h ih => -- the first statement opens a graph
    obtain ⟨hg, h3', hN', hev, hfit⟩ := stmt hwf hn h
    exact (ih (fun c hc => by
          cases hc
          exact ⟨hg, by simpa using h3', fun hN => ⟨(hN' hN).1, by simpa using (hN' hN).2⟩⟩)
        (fun t ht => hwf t (List.mem_cons_of_mem _ ht)) (fun hN t ht => hn hN t (List.mem_cons_of_mem _ ht))).mono
      (fun _ _ h => ⟨h.1, fun hN => by simp [h.2 hN]⟩) (fun _ _ h => h)
      (by simp only [pendingEvs, List.map_cons, List.map_nil, hev]; simp)
      (fun hf => ⟨fun c hc => by cases hc; simpa using hfit (hf.2 _ List.mem_cons_self),
        fun t ht => hf.2 t (List.mem_cons_of_mem _ ht)⟩)
  | case5 st rest g h cg acc heq ih => -- same graph name: collected
    obtain ⟨hg, h3', hN', hev, hfit⟩ := stmt hwf hn h
    obtain rfl : cg = g := eq_of_beq heq
    obtain ⟨hcg, hacc, hcn⟩ := hcur _ rfl
    exact ((ih (fun c hc => by
          cases hc
          exact ⟨hcg, by simpa [or_imp, forall_and, h3'] using hacc,
            fun hN => ⟨(hcn hN).1, by simpa [or_imp, forall_and, (hN' hN).2] using (hcn hN).2⟩⟩)
        (fun t ht => hwf t (List.mem_cons_of_mem _ ht))
        (fun hN t ht => hn hN t (List.mem_cons_of_mem _ ht))).of_evs_eq
      (by simp only [pendingEvs, List.map_cons, List.map_nil, List.map_append, hev]; simp)).weaken_fit
      (fun hf => ⟨fun c hc => by
          cases hc
          exact ⟨(hf.1 _ rfl).1,
            by simpa [or_imp, forall_and, (hfit (hf.2 _ List.mem_cons_self)).2] using (hf.1 _ rfl).2⟩,
        fun t ht => hf.2 t (List.mem_cons_of_mem _ ht)⟩)
  | case6 st rest g h cg acc heq ih => -- another graph name: the collected graph is written
    obtain ⟨hg, h3', hN', hev, hfit⟩ := stmt hwf hn h
    obtain ⟨hcg, hacc, hcn⟩ := hcur _ rfl
    have new := ih (fun c hc => by
        cases hc
        exact ⟨hg, by simpa using h3', fun hN => ⟨(hN' hN).1, by simpa using (hN' hN).2⟩⟩)
      (fun t ht => hwf t (List.mem_cons_of_mem _ ht)) (fun hN t ht => hn hN t (List.mem_cons_of_mem _ ht))
    exact ((Follows.append hs (block (cg, acc) hcur) (new.mono_pre
      fun _ _ h => ⟨h.1, fun hN => by
        show _ ≠ some g.norm
        rw [h.2, (hcn hN).1, (hN' hN).1]
        exact fun h => heq (beq_iff_eq.2 (Option.some.inj h))⟩)).of_evs_eq
      (by simp only [pendingEvs, List.map_cons, List.map_nil, hev]; simp)).weaken_fit
      (fun hf => ⟨hf.1, fun c hc => by cases hc; simpa using hfit (hf.2 _ List.mem_cons_self),
        fun t ht => hf.2 t (List.mem_cons_of_mem _ ht)⟩)

def StreamClass.stmtWF : StreamClass → List Term → Bool
  | .triple => tripleWF
  | _ => quadWF

theorem classCmds_follows (cls : StreamClass) (hph : o.physicalType = cls.physical) (ts : List (List Term))
    (hwf : ∀ t ∈ ts, cls.stmtWF t = true) (hn : N → ∀ t ∈ ts, NormalStmt t) :
    Follows (RunsToN N) (fun es x => InStep N P o none es x ∧ (N → x.2 = none)) (InStep N P o none) (classCmds cls ts)
      (ts.map fun t => Event.stmt (t.map Term.norm)) (∀ t ∈ ts, TermFits P t) := by
  cases cls
  · exact ((tripleCmds_follows N hpn (Or.inl ⟨hph, rfl⟩) .runtimeError ts hwf hn).mono_pre
      fun _ _ h => h.1).of_evs_eq (by simp)
  · exact (quadCmds_follows N hpn hph .runtimeError ts hwf hn).mono_pre fun _ _ h => h.1
  · exact ((graphsCmds_follows N hpn hph ts none (fun _ h => (by cases h)) hwf hn).of_evs_eq
      (by simp [pendingEvs])).weaken_fit fun hf => ⟨fun _ h => (by cases h), hf⟩

end

/-- The declarations of a sink: every binding is an IRI; each is one IRI, which fits any valid preset. -/
theorem nsCmds_follows (N : Prop) {P : Preset} {o : Options} (hv : P.valid = true) (og : Option Term)
    (ns : List (String × Term)) (hb : ∀ b ∈ ns, ∃ i, b.2 = Term.iri i)
    (h2 : ns ≠ [] → ¬ N ∧ 2 ≤ o.version) (Q : Option Term → Prop) :
    Follows (RunsToN N) (fun es x => InStep N P o og es x ∧ Q x.2) (fun es x => InStep N P o og es x ∧ Q x.2)
      (nsCmds ns) (ns.map fun b => Event.ns b.1 b.2) True := by
  have hs := RunsToN.isSeg N
  rw [nsCmds, List.map_eq_flatMap, List.map_eq_flatMap]
  refine (Follows.flatMap hs ns _ _ (fun _ => True) fun b hb' => ?_).weaken_fit fun _ _ _ => trivial
  obtain ⟨name, v⟩ := b
  obtain ⟨iri, rfl⟩ : ∃ i, v = Term.iri i := hb _ hb'
  obtain ⟨hN, hver⟩ := h2 (List.ne_nil_of_mem hb')
  exact nsOp_follows hN hv hver og Q name iri

/-- `graphs_stream_frames` over `Dataset.graphs()`: one `GraphStream.graph` call per graph; names need not
    differ from their neighbours, so the audit is not followed. -/
theorem graphsCmdsR_follows {P : Preset} {o : Options} (hv : P.valid = true) (h3 : o.physicalType = 3)
    (gs : List (Term × List (List Term))) (hwf : ∀ x ∈ gs, x.1.WFGraph = true ∧ ∀ t ∈ x.2, tripleWF t = true) :
    Follows (RunsToN False) (InStep False P o none) (InStep False P o none) (graphsCmdsR gs)
      (gs.flatMap fun x => x.2.map fun t => Event.stmt ((t ++ [x.1]).map Term.norm))
      (∀ x ∈ gs, TermFits P [x.1] ∧ ∀ t ∈ x.2, TermFits P t) :=
  Follows.flatMap (RunsToN.isSeg False) gs _ _ _ fun x hx =>
    (graphCmds_follows False (posn_of_valid hv) h3 .runtimeError x.1 x.2 (hwf x hx).1 (hwf x hx).2
        (fun h => h.elim)).mono
      (fun _ _ h => ⟨h, fun h => h.elim⟩) (fun _ _ h => h.1) (by simp) id

/-- `triples_stream_frames` over a Dataset: all triples of all graphs, a frame offered after each graph. -/
theorem triplesGraphsCmds_follows {P : Preset} {o : Options} (hv : P.valid = true) (h1 : o.physicalType = 1)
    (graphs : List (List (List Term))) (hwf : ∀ g ∈ graphs, ∀ t ∈ g, tripleWF t = true) :
    Follows (RunsToN False) (InStep False P o none) (InStep False P o none) (triplesGraphsCmds graphs)
      (graphs.flatten.map fun t => Event.stmt (t.map Term.norm)) (∀ g ∈ graphs, ∀ t ∈ g, TermFits P t) :=
  have hs := RunsToN.isSeg False
  (Follows.flatMap hs graphs _ _ _ fun g hg =>
    (tripleCmds_follows False (posn_of_valid hv) (Or.inl ⟨h1, rfl⟩) .runtimeError g (hwf g hg)
      (fun h => h.elim)).then_cuts hs [.graph]).of_evs_eq
    (by simp only [List.append_nil, List.flatMap_def, List.map_flatten, Option.toList_none])

end Jelly
