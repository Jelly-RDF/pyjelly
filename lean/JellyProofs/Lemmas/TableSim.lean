import JellyModel.Lookup
import JellyModel.Spec
import JellyProofs.Lemmas.Pin
/-!
# Single-table theory for the writer/reference-decoder simulation (C03)

One writer table (a well-formed LRU dictionary, `Lookup.WF`) against one reader table that holds every resident
`(key, index)` pair of the writer (`EMirror`). A successful `entryIndex` is one of three cases (`EntryCase`), and
`EntryCase.spec` says what each does to the table as a set of pairs and what the emitted id means; the mirror lemmas
are read off it. The LRU bookkeeping (`Rec`/`Pres`/`Fits`): the keys touched in the current statement form the
most-recently-used suffix of `data`, so no touched key is evicted while the statement touches at most `maxSize`
distinct keys — and a later reader table still agrees with the writer on them (`AgreeOn`).
-/
namespace Jelly

theorem exists_of_mem_keys {l : List (String × Nat)} {k : String} (h : k ∈ l.map (·.1)) :
    ∃ i, (k, i) ∈ l := by
  obtain ⟨⟨k', i⟩, hm, rfl⟩ := List.mem_map.mp h
  exact ⟨i, hm⟩

theorem nodup_keys_snoc {l : List (String × Nat)} (nd : (l.map (·.1)).Nodup) {k : String}
    (hk : k ∉ l.map (·.1)) (i : Nat) : ((l ++ [(k, i)]).map (·.1)).Nodup := by
  simp only [List.map_append, List.map_cons, List.map_nil]
  refine List.nodup_append.mpr ⟨nd, by simp, ?_⟩
  intro a ha b hb; simp at hb; subst hb
  intro hab; subst hab; exact hk ha

/-- The writer table is a well-formed LRU dictionary: distinct keys, the indices in use are `1 … length`, at most
    `maxSize` entries, and (when enabled) `evicting` says that it is full. -/
structure Lookup.WF (l : Lookup) : Prop where
  keysNodup : (l.data.map (·.1)).Nodup
  idxPerm : (l.data.map (·.2)).Perm (List.range' 1 l.data.length)
  lenLe : l.data.length ≤ l.maxSize
  ev : 0 < l.maxSize → l.evicting = (l.data.length == l.maxSize)

theorem Lookup.WF.new (n : Nat) : (Lookup.new n).WF := by
  refine ⟨by simp [Lookup.new], by simp [Lookup.new], by simp [Lookup.new], ?_⟩
  intro hn
  have hn' : 0 < n := hn
  have : (0 == n) = false := by simp; omega
  simp [Lookup.new, this]

theorem Lookup.WF.idx_range {l : Lookup} (wf : l.WF) {k i} (h : (k, i) ∈ l.data) :
    1 ≤ i ∧ i ≤ l.data.length := by
  have : i ∈ l.data.map (·.2) := List.mem_map.mpr ⟨(k, i), h, rfl⟩
  have := (wf.idxPerm.mem_iff).mp this
  simp [List.mem_range'] at this
  omega

theorem Lookup.WF.idx_le_max {l : Lookup} (wf : l.WF) {k i} (h : (k, i) ∈ l.data) :
    1 ≤ i ∧ i ≤ l.maxSize := by
  have := wf.idx_range h; have := wf.lenLe; omega

theorem Lookup.WF.of_perm {l l' : Lookup} (wf : l.WF) (hp : l'.data.Perm l.data)
    (hm : l'.maxSize = l.maxSize) (he : l'.evicting = l.evicting) : l'.WF := by
  have hl := hp.length_eq
  refine ⟨?_, ?_, ?_, ?_⟩
  · exact ((hp.map _).nodup_iff).mpr wf.keysNodup
  · rw [hl]; exact (hp.map _).trans wf.idxPerm
  · rw [hl, hm]; exact wf.lenLe
  · rw [he, hl, hm]; exact wf.ev

/-- `move_to_end` on a resident entry (the key gets pinned to the current row). -/
def Lookup.bump (l : Lookup) (e : String × Nat) : Lookup :=
  ({ l with data := l.data.erase e ++ [e] } : Lookup).pin e.1

@[simp] theorem Lookup.bump_data (l : Lookup) (e : String × Nat) :
    (l.bump e).data = l.data.erase e ++ [e] := by
  unfold Lookup.bump; rw [Lookup.pin_data]

@[simp] theorem Lookup.bump_maxSize (l : Lookup) (e : String × Nat) : (l.bump e).maxSize = l.maxSize := by
  unfold Lookup.bump; rw [Lookup.pin_maxSize]

@[simp] theorem Lookup.bump_evicting (l : Lookup) (e : String × Nat) : (l.bump e).evicting = l.evicting := by
  unfold Lookup.bump; rw [Lookup.pin_evicting]

theorem Lookup.bump_pinned (l : Lookup) (e : String × Nat) :
    (l.bump e).pinned = l.pinned.map (e.1 :: ·) := by
  unfold Lookup.bump; rw [Lookup.pin_pinned]

theorem Lookup.bump_perm {l : Lookup} {e} (h : e ∈ l.data) : (l.bump e).data.Perm l.data := by
  rw [Lookup.bump_data]
  exact (List.perm_append_comm).trans (List.perm_cons_erase h).symm

theorem Lookup.mem_bump {l : Lookup} {e} (h : e ∈ l.data) {x} : x ∈ (l.bump e).data ↔ x ∈ l.data :=
  (Lookup.bump_perm h).mem_iff

theorem Lookup.WF.bump {l : Lookup} (wf : l.WF) {e} (h : e ∈ l.data) : (l.bump e).WF :=
  wf.of_perm (Lookup.bump_perm h) (by simp) (by simp)

/-- Well-formedness does not look at `pinned`. -/
theorem Lookup.WF.congr {l l' : Lookup} (wf : l.WF) (hd : l'.data = l.data) (hm : l'.maxSize = l.maxSize)
    (he : l'.evicting = l.evicting) : l'.WF :=
  wf.of_perm (by rw [hd]) hm he

theorem Lookup.WF.pin {l : Lookup} (wf : l.WF) (k : String) : (l.pin k).WF :=
  wf.congr (by simp) (by simp) (by simp)

theorem Lookup.find?_of_mem {l : Lookup} (wf : l.WF) {k i} (h : (k, i) ∈ l.data) :
    l.find? k = some (k, i) := by
  unfold Lookup.find?
  have nd := wf.keysNodup
  generalize l.data = xs at h nd
  induction xs with
  | nil => simp at h
  | cons x xs ih =>
    simp only [List.map_cons, List.nodup_cons] at nd
    rw [List.find?_cons]
    rcases List.mem_cons.mp h with h | h
    · subst h; simp
    · have hx : (x.1 == k) = false := by
        simpa using fun hx : x.1 = k => nd.1 (List.mem_map.mpr ⟨(k, i), h, hx.symm⟩)
      rw [hx]
      exact ih h nd.2

theorem Lookup.find?_eq_none {l : Lookup} {k} : l.find? k = none ↔ k ∉ l.data.map (·.1) := by
  unfold Lookup.find?
  rw [List.find?_eq_none]
  constructor
  · intro h hc
    obtain ⟨e, he, hk⟩ := List.mem_map.mp hc
    exact h e he (by simp [hk])
  · intro h e he hk
    apply h
    have : e.1 = k := by simpa using hk
    exact List.mem_map.mpr ⟨e, he, this⟩

theorem Lookup.moveToEnd_of_mem {l : Lookup} (wf : l.WF) {k i} (h : (k, i) ∈ l.data) :
    l.moveToEnd k = some (l.bump (k, i)) := by
  unfold Lookup.moveToEnd
  rw [Lookup.find?_of_mem wf h]
  rfl

theorem Lookup.moveToEnd_eq_none {l : Lookup} {k} (h : k ∉ l.data.map (·.1)) : l.moveToEnd k = none := by
  unfold Lookup.moveToEnd
  rw [Lookup.find?_eq_none.mpr h]

theorem Lookup.moveToEnd_some {l l' : Lookup} {k} (h : l.moveToEnd k = some l') :
    ∃ i, (k, i) ∈ l.data ∧ l' = l.bump (k, i) := by
  unfold Lookup.moveToEnd at h
  split at h
  · cases h
  · rename_i x hx
    obtain ⟨k', i⟩ := x
    have hk : k' = k := by simpa using List.find?_some hx
    subst hk
    exact ⟨i, List.mem_of_find?_eq_some hx, (Option.some.inj h).symm⟩

/-- The three ways `entryIndex` succeeds: the key is resident (`hit`: moved to the end, no entry row), the table
    has room (`fill`: next free index), or the least recently used entry, which must not be pinned, gives up its index
    (`evict`). -/
inductive EntryCase (e : LookupEnc) (k : String) (e' : LookupEnc) (oid : Option Nat) : Prop
  | hit (i : Nat) (hm : (k, i) ∈ e.lookup.data)
      (he : e' = { e with lookup := e.lookup.bump (k, i) }) (ho : oid = none)
  | fill (hk : k ∉ e.lookup.data.map (·.1)) (hlt : e.lookup.data.length < e.lookup.maxSize)
      (he : e' = { e with
        lookup := ({ e.lookup with data := e.lookup.data ++ [(k, e.lookup.data.length + 1)],
                                   evicting := e.lookup.data.length + 1 == e.lookup.maxSize } : Lookup).pin k,
        lastAssigned := e.lookup.data.length + 1 })
      (ho : oid = some (if e.lookup.data.length + 1 == e.lastAssigned + 1 then 0
                        else e.lookup.data.length + 1))
  | evict (k0 : String) (i0 : Nat) (rest : List (String × Nat))
      (hk : k ∉ e.lookup.data.map (·.1)) (hd : e.lookup.data = (k0, i0) :: rest)
      (hfull : e.lookup.data.length = e.lookup.maxSize)
      (hnp : e.lookup.isPinned k0 = false)
      (he : e' = { e with lookup := ({ e.lookup with data := rest ++ [(k, i0)] } : Lookup).pin k,
                          lastAssigned := i0 })
      (ho : oid = some (if i0 == e.lastAssigned + 1 then 0 else i0))

/-- The refusal: the table is full, the key is new and the least recently used entry is pinned by
    the row being encoded. -/
structure EntryRefused (e : LookupEnc) (k : String) : Prop where
  err : e.entryIndex k = .error .conformance
  ex : ∃ k0 i0 rest, k ∉ e.lookup.data.map (·.1) ∧ e.lookup.data = (k0, i0) :: rest ∧
        e.lookup.data.length = e.lookup.maxSize ∧ e.lookup.isPinned k0 = true

/-- `entryIndex` for one key of the current row: it succeeds in one of the three ways, or it is refused
    (`JellyConformanceError`: the table is full and its least recently used entry is pinned). -/
theorem entryIndex_cases {e : LookupEnc} (wf : e.lookup.WF) (hpos : 0 < e.lookup.maxSize) (k : String) :
    (∃ e' oid, e.entryIndex k = .ok (e', oid) ∧ EntryCase e k e' oid) ∨ EntryRefused e k := by
  by_cases hk : k ∈ e.lookup.data.map (·.1)
  · obtain ⟨i, hi⟩ := exists_of_mem_keys hk
    refine Or.inl ⟨_, _, ?_, EntryCase.hit i hi rfl rfl⟩
    simp only [LookupEnc.entryIndex, Lookup.moveToEnd_of_mem wf hi]
  · have hne : (e.lookup.maxSize == 0) = false := by simp; omega
    by_cases hev : e.lookup.evicting = true
    · have hfull : e.lookup.data.length = e.lookup.maxSize := by
        have := wf.ev hpos; rw [hev] at this; simpa using this.symm
      cases hd : e.lookup.data with
      | nil => rw [hd] at hfull; simp at hfull; omega
      | cons x rest =>
        obtain ⟨k0, i0⟩ := x
        cases hnp : e.lookup.isPinned k0 with
        | false =>
          refine Or.inl ⟨_, _, ?_, EntryCase.evict k0 i0 rest hk hd hfull hnp rfl rfl⟩
          simp only [LookupEnc.entryIndex, Lookup.moveToEnd_eq_none hk, Lookup.insert, hne, hev, hd, hnp]
          rfl
        | true =>
          refine Or.inr ⟨?_, k0, i0, rest, hk, hd, hd ▸ hfull, hnp⟩
          simp only [LookupEnc.entryIndex, Lookup.moveToEnd_eq_none hk, Lookup.insert, hne, hev, hd, hnp]
          rfl
    · have hev' : e.lookup.evicting = false := by simpa using hev
      have hlt : e.lookup.data.length < e.lookup.maxSize := by
        have := wf.ev hpos; rw [hev'] at this
        have h2 : e.lookup.data.length ≠ e.lookup.maxSize := by simpa using this.symm
        have := wf.lenLe; omega
      refine Or.inl ⟨_, _, ?_, EntryCase.fill hk hlt rfl rfl⟩
      simp only [LookupEnc.entryIndex, Lookup.moveToEnd_eq_none hk, Lookup.insert, hne, hev']
      rfl

theorem entryIndex_ok_case {e : LookupEnc} (wf : e.lookup.WF) (hpos : 0 < e.lookup.maxSize) {k : String}
    {e' oid} (h : e.entryIndex k = .ok (e', oid)) : EntryCase e k e' oid := by
  rcases entryIndex_cases wf hpos k with ⟨e1, oid1, h1, c⟩ | hr
  · rw [h1] at h
    injection h with h; injection h with ha hb; subst ha hb; exact c
  · rw [hr.err] at h; exact absurd h (by simp)

theorem entryIndex_cases_unpinned {e : LookupEnc} (wf : e.lookup.WF) (hpos : 0 < e.lookup.maxSize)
    (hn : e.lookup.pinned = none) (k : String) :
    ∃ e' oid, e.entryIndex k = .ok (e', oid) ∧ EntryCase e k e' oid := by
  rcases entryIndex_cases wf hpos k with h | hr
  · exact h
  · obtain ⟨k0, -, -, -, -, -, hp⟩ := hr.ex
    rw [Lookup.isPinned_of_none hn] at hp
    exact absurd hp (by simp)

theorem EntryCase.basic {e e' : LookupEnc} {k oid} (wf : e.lookup.WF) (hpos : 0 < e.lookup.maxSize)
    (c : EntryCase e k e' oid) :
    e'.lookup.WF ∧ e'.lookup.maxSize = e.lookup.maxSize ∧ e'.lastReused = e.lastReused ∧
      ∃ i, (k, i) ∈ e'.lookup.data := by
  cases c with
  | hit i hm he ho =>
    subst he
    exact ⟨wf.bump hm, by simp, rfl, i, (Lookup.mem_bump hm).mpr hm⟩
  | fill hk hlt he ho =>
    subst he
    refine ⟨Lookup.WF.pin ⟨?_, ?_, ?_, ?_⟩ k, by simp, rfl, e.lookup.data.length + 1, by simp⟩
    · exact nodup_keys_snoc wf.keysNodup hk _
    · simp only [List.map_append, List.map_cons, List.map_nil, List.length_append, List.length_cons,
        List.length_nil]
      rw [List.range'_concat]
      exact List.Perm.append wf.idxPerm (by simp; omega)
    · simp; omega
    · intro _; simp
  | evict k0 i0 rest hk hd hfull hnp he ho =>
    subst he
    have hkeys := wf.keysNodup; have hidx := wf.idxPerm
    rw [hd] at hkeys hidx hfull
    simp only [List.map_cons, List.nodup_cons, List.length_cons] at hkeys hidx hfull
    refine ⟨Lookup.WF.pin ⟨?_, ?_, ?_, ?_⟩ k, by simp, rfl, i0, by simp⟩
    · exact nodup_keys_snoc hkeys.2 (fun h => hk (by rw [hd]; exact List.mem_cons_of_mem _ h)) _
    · simp only [List.map_append, List.map_cons, List.map_nil, List.length_append, List.length_cons,
        List.length_nil]
      exact (List.perm_append_comm).trans hidx
    · simp; omega
    · intro _
      simpa [hd] using wf.ev hpos

theorem EntryCase.pinned {e e' : LookupEnc} {k oid} (c : EntryCase e k e' oid) :
    e'.lookup.pinned = e.lookup.pinned.map (k :: ·) := by
  cases c with
  | hit i hm he ho => subst he; exact Lookup.bump_pinned _ _
  | fill hk hlt he ho => subst he; exact Lookup.pin_pinned _ _
  | evict k0 i0 rest hk hd hfull hnp he ho => subst he; exact Lookup.pin_pinned _ _

/-- What a successful `entryIndex` does to the table as a set of pairs, and what the emitted id
    means: a hit changes nothing; otherwise the new key takes an index `i` (whoever held `i` before
    was not pinned and is gone) and the id on the wire is `i` in its shortest form. -/
theorem EntryCase.spec {e e' : LookupEnc} {k oid} (wf : e.lookup.WF) (c : EntryCase e k e' oid) :
    e'.lookup.maxSize = e.lookup.maxSize ∧
    ((oid = none ∧ e'.lastAssigned = e.lastAssigned ∧ ∀ x, x ∈ e'.lookup.data ↔ x ∈ e.lookup.data) ∨
     (∃ i, oid = some (if i == e.lastAssigned + 1 then 0 else i) ∧ e'.lastAssigned = i ∧
        1 ≤ i ∧ i ≤ e.lookup.maxSize ∧ k ∉ e.lookup.data.map (·.1) ∧
        (∀ k0, (k0, i) ∈ e.lookup.data → e.lookup.isPinned k0 = false) ∧
        ∀ k' i', (k', i') ∈ e'.lookup.data ↔ ((k', i') = (k, i) ∨ ((k', i') ∈ e.lookup.data ∧ i' ≠ i)))) := by
  cases c with
  | hit i hm he ho =>
    subst he ho
    exact ⟨by simp, Or.inl ⟨rfl, rfl, fun _ => Lookup.mem_bump hm⟩⟩
  | fill hk hlt he ho =>
    subst he ho
    refine ⟨by simp, Or.inr ⟨e.lookup.data.length + 1, rfl, rfl, by omega, by omega, hk,
      fun k0 hk0 => by have := wf.idx_range hk0; omega, ?_⟩⟩
    intro k' i'
    simp only [Lookup.pin_data, List.mem_append, List.mem_singleton]
    constructor
    · rintro (hm' | hm')
      · right; exact ⟨hm', by have := wf.idx_range hm'; omega⟩
      · left; exact hm'
    · rintro (hm' | ⟨hm', _⟩)
      · right; exact hm'
      · left; exact hm'
  | evict k0 i0 rest hk hd hfull hnp he ho =>
    subst he ho
    have hr0 := wf.idx_range (k := k0) (i := i0) (by rw [hd]; simp)
    -- indices are distinct, so nobody in `rest` holds the victim's index
    have hidx := wf.idxPerm
    rw [hd] at hidx
    simp only [List.map_cons, List.length_cons] at hidx
    have hidxnd : (i0 :: rest.map (·.2)).Nodup :=
      (hidx.nodup_iff).mpr (List.nodup_range' (step := 1) (by omega))
    refine ⟨by simp, Or.inr ⟨i0, rfl, rfl, by omega, by omega, hk, fun k1 hk1 => ?_, ?_⟩⟩
    · rw [hd] at hk1
      rcases List.mem_cons.mp hk1 with heq | hm
      · cases heq; exact hnp
      · exact absurd (List.mem_map.mpr ⟨(k1, i0), hm, rfl⟩) (List.nodup_cons.mp hidxnd).1
    intro k' i'
    simp only [Lookup.pin_data, List.mem_append, List.mem_singleton]
    constructor
    · rintro (hm' | hm')
      · right
        refine ⟨by rw [hd]; exact List.mem_cons_of_mem _ hm', ?_⟩
        intro hc; subst hc
        exact (List.nodup_cons.mp hidxnd).1 (List.mem_map.mpr ⟨(k', i'), hm', rfl⟩)
      · left; exact hm'
    · rintro (hm' | ⟨hm', hne⟩)
      · right; exact hm'
      · left
        rw [hd] at hm'
        rcases List.mem_cons.mp hm' with heq | hm'
        · injection heq with _ h2; exact absurd h2 hne
        · exact hm'

/-- Reader table vs writer table, everything except `lastReused` (which lags behind on the reader
    side while the entry rows of a statement are ingested). -/
structure EMirror (e : LookupEnc) (t : LookupDec) : Prop where
  size : t.size = e.lookup.maxSize
  len : t.data.length = e.lookup.maxSize
  la : t.lastAssigned = e.lastAssigned
  res : ∀ k i, (k, i) ∈ e.lookup.data → t.data[i - 1]? = some (some k)

theorem EMirror.new (n : Nat) : EMirror (LookupEnc.new n) (Spec.mkTable n) :=
  ⟨rfl, by simp [Spec.mkTable, LookupEnc.new, Lookup.new], rfl, by
    intro k i h; simp [LookupEnc.new, Lookup.new] at h⟩

/-- The relation reads neither the writer's pins nor the reader's `lastReused`. -/
theorem EMirror.of_pins {e : LookupEnc} {t : LookupDec} (m : EMirror e t) (ps : Option (List String)) (r : Nat) :
    EMirror { e with lookup := { e.lookup with pinned := ps } } { t with lastReused := r } :=
  ⟨m.size, m.len, m.la, m.res⟩

/-- What the reference decoder does with the (optional) entry row of one key. -/
def ingestEntry (t : LookupDec) (oid : Option Nat) (k : String) : Except Spec.Violation LookupDec :=
  match oid with
  | none => .ok t
  | some id => Spec.assign t id k

theorem assign_eq {t : LookupDec} {id i : Nat} {v : String} (hi : 1 ≤ i) (hle : i ≤ t.size)
    (hid : (if id == 0 then t.lastAssigned + 1 else id) = i) :
    Spec.assign t id v = .ok { t with data := t.data.set (i - 1) (some v), lastAssigned := i } := by
  unfold Spec.assign
  simp only [hid]
  have h1 : decide (1 ≤ i) = true := by simpa using hi
  have h2 : decide (i ≤ t.size) = true := by simpa using hle
  simp [h1, h2]

theorem mirror_after_set {e : LookupEnc} {t : LookupDec} {k : String} {i : Nat} {l' : Lookup}
    (wf : e.lookup.WF) (m : EMirror e t) (hm : l'.maxSize = e.lookup.maxSize)
    (hi : 1 ≤ i) (hle : i ≤ e.lookup.maxSize)
    (hold : ∀ k' i', (k', i') ∈ l'.data → (k', i') = (k, i) ∨ ((k', i') ∈ e.lookup.data ∧ i' ≠ i)) :
    EMirror { e with lookup := l', lastAssigned := i }
      { t with data := t.data.set (i - 1) (some k), lastAssigned := i } := by
  refine ⟨by simpa [hm] using m.size, by simpa [hm] using m.len, rfl, ?_⟩
  intro k' i' hmem
  rcases hold k' i' hmem with h | ⟨h, hne⟩
  · injection h with h1 h2; subst h1; subst h2
    have : i' - 1 < t.data.length := by have := m.len; omega
    simp [this]
  · have hr := wf.idx_range h
    have : i - 1 ≠ i' - 1 := by omega
    simp only [List.getElem?_set_ne this]
    exact m.res k' i' h

/-- The reader reads the shortest form of an entry id back as the index it stands for. -/
theorem entryId_short (la i : Nat) (hi : 1 ≤ i) :
    (if (if i == la + 1 then 0 else i) == 0 then la + 1 else (if i == la + 1 then 0 else i)) = i := by
  by_cases h : i = la + 1
  · simp [h]
  · have : (i == 0) = false := by simp; omega
    simp [h, this]

theorem EntryCase.mirror {e e' : LookupEnc} {k oid} {t : LookupDec} (wf : e.lookup.WF)
    (m : EMirror e t) (c : EntryCase e k e' oid) :
    ∃ t', ingestEntry t oid k = .ok t' ∧ EMirror e' t' ∧ t'.lastReused = t.lastReused := by
  obtain ⟨hmax, ⟨rfl, hla, hmem⟩ | ⟨i, rfl, hla, h1, h2, _, _, hold⟩⟩ := c.spec wf
  · exact ⟨t, rfl, ⟨by rw [hmax]; exact m.size, by rw [hmax]; exact m.len, by rw [hla]; exact m.la,
      fun k' i' h => m.res k' i' ((hmem _).mp h)⟩, rfl⟩
  · refine ⟨_, assign_eq (i := i) h1 (by rw [m.size]; exact h2) (by rw [m.la]; exact entryId_short _ _ h1), ?_, rfl⟩
    have := mirror_after_set (l' := e'.lookup) (k := k) wf m hmax h1 h2 (fun k' i' h => (hold k' i').mp h)
    subst hla
    exact ⟨this.size, this.len, this.la, this.res⟩

/-- The keys `R` touched so far in the current statement are resident and form the
    most-recently-used suffix of `data`. -/
def Rec (data : List (String × Nat)) (R : List String) : Prop :=
  ∃ old recent, data = old ++ recent ∧ (∀ k ∈ R, k ∈ recent.map (·.1)) ∧ (∀ x ∈ recent, x.1 ∈ R)

/-- Every resident pair of `d` whose key is in `R` is still resident, same index, in `d'`. -/
def Pres (R : List String) (d d' : List (String × Nat)) : Prop :=
  ∀ k i, k ∈ R → (k, i) ∈ d → (k, i) ∈ d'

/-- `T` has at most `n` distinct elements. -/
def Fits (T : List String) (n : Nat) : Prop :=
  ∀ l : List String, l.Nodup → (∀ x ∈ l, x ∈ T) → l.length ≤ n

theorem Fits.of_eraseDups {T : List String} {n : Nat} (h : T.eraseDups.length ≤ n) : Fits T n := by
  intro l hnd hsub
  have : l.length ≤ T.eraseDups.length :=
    hnd.length_le_of_subset (fun x hx => List.mem_eraseDups.mpr (hsub x hx))
  omega

theorem Rec.nil (data : List (String × Nat)) : Rec data [] :=
  ⟨data, [], by simp, by simp, by simp⟩

theorem Pres.refl (R : List String) (d : List (String × Nat)) : Pres R d d := fun _ _ _ h => h

theorem Pres.trans {R : List String} {d₁ d₂ d₃ : List (String × Nat)} (h₁ : Pres R d₁ d₂)
    (h₂ : Pres R d₂ d₃) : Pres R d₁ d₃ := fun k i hk h => h₂ k i hk (h₁ k i hk h)

theorem Pres.mono {R R' : List String} {d d' : List (String × Nat)} (h : Pres R' d d')
    (hs : ∀ k ∈ R, k ∈ R') : Pres R d d' := fun k i hk hm => h k i (hs k hk) hm

theorem Rec.resident {data : List (String × Nat)} {R : List String} (h : Rec data R) {k} (hk : k ∈ R) :
    k ∈ data.map (·.1) := by
  obtain ⟨old, recent, rfl, h1, _⟩ := h
  simp only [List.map_append, List.mem_append]
  exact Or.inr (h1 k hk)

theorem Rec.snoc {data : List (String × Nat)} {R : List String} (h : Rec data R) (k : String) (i : Nat) :
    Rec (data ++ [(k, i)]) (k :: R) := by
  obtain ⟨old, recent, rfl, h1, h2⟩ := h
  refine ⟨old, recent ++ [(k, i)], List.append_assoc _ _ _, ?_, ?_⟩
  · intro k' hk'
    simp only [List.map_append, List.map_cons, List.map_nil, List.mem_append, List.mem_singleton]
    rcases List.mem_cons.mp hk' with rfl | hk'
    · exact Or.inr rfl
    · exact Or.inl (h1 k' hk')
  · intro x hx
    rcases List.mem_append.mp hx with hx | hx
    · exact List.mem_cons_of_mem _ (h2 x hx)
    · simp only [List.mem_singleton] at hx; subst hx; exact List.mem_cons_self

theorem Rec.bump {data : List (String × Nat)} {R : List String} (h : Rec data R) (k : String) (i : Nat) :
    Rec (data.erase (k, i) ++ [(k, i)]) (k :: R) := by
  obtain ⟨old, recent, rfl, h1, h2⟩ := h
  by_cases ho : (k, i) ∈ old
  · rw [List.erase_append_left _ ho]
    exact Rec.snoc ⟨_, recent, rfl, h1, h2⟩ k i
  · refine ⟨old, recent.erase (k, i) ++ [(k, i)], ?_, ?_, ?_⟩
    · rw [List.erase_append_right _ ho, List.append_assoc]
    · intro k' hk'
      simp only [List.map_append, List.map_cons, List.map_nil, List.mem_append, List.mem_singleton]
      by_cases hkk : k' = k
      · exact Or.inr hkk
      · rcases List.mem_cons.mp hk' with rfl | hk'
        · exact absurd rfl hkk
        · obtain ⟨j, hj⟩ := exists_of_mem_keys (h1 k' hk')
          left
          refine List.mem_map.mpr ⟨(k', j), ?_, rfl⟩
          exact (List.mem_erase_of_ne (by intro hc; injection hc with hc _; exact hkk hc)).mpr hj
    · intro x hx
      rcases List.mem_append.mp hx with hx | hx
      · exact List.mem_cons_of_mem _ (h2 x (List.mem_of_mem_erase hx))
      · simp only [List.mem_singleton] at hx; subst hx; exact List.mem_cons_self

/-- The least recently used entry: either it is not a key of this row and can go, or the keys of
    this row fill the whole table. -/
theorem Rec.cons_cases {x : String × Nat} {rest : List (String × Nat)} {R : List String}
    (h : Rec (x :: rest) R) (nd : ((x :: rest).map (·.1)).Nodup) :
    (x.1 ∉ R ∧ Rec rest R) ∨ ∀ y ∈ x :: rest, y.1 ∈ R := by
  obtain ⟨old, recent, hd, h1, h2⟩ := h
  cases old with
  | nil => exact Or.inr (fun y hy => h2 y (by rw [List.nil_append] at hd; rw [← hd]; exact hy))
  | cons y old' =>
    rw [List.cons_append] at hd
    injection hd with hy hrest
    subst hy hrest
    refine Or.inl ⟨fun hx => ?_, old', recent, rfl, h1, h2⟩
    simp only [List.map_cons, List.map_append, List.nodup_cons, List.mem_append] at nd
    exact nd.1 (Or.inr (h1 _ hx))

/-- The pin bookkeeping of the row being encoded: tracking is on, and the pinned keys are exactly
    the keys `R` touched so far in this row. -/
def PinOK (l : Lookup) (R : List String) : Prop :=
  ∃ ps, l.pinned = some ps ∧ ∀ k, k ∈ ps ↔ k ∈ R

theorem PinOK.nil {l : Lookup} (h : l.pinned = some []) : PinOK l [] := ⟨[], h, fun _ => Iff.rfl⟩

theorem PinOK.isPinned {l : Lookup} {R : List String} (h : PinOK l R) (k : String) :
    l.isPinned k = true ↔ k ∈ R := by
  obtain ⟨ps, hp, hi⟩ := h
  rw [Lookup.isPinned_some hp, List.contains_iff_mem]
  exact hi k

theorem PinOK.cons {l l' : Lookup} {R : List String} {k : String} (h : PinOK l R)
    (hp : l'.pinned = l.pinned.map (k :: ·)) : PinOK l' (k :: R) := by
  obtain ⟨ps, hps, hi⟩ := h
  refine ⟨k :: ps, by rw [hp, hps]; rfl, ?_⟩
  intro x
  simp only [List.mem_cons, hi x]

/-- No pair of a key of the current row is lost by a successful `entryIndex`: the only pair that
    can go is the victim of an eviction, and that key is not pinned. -/
theorem EntryCase.pres {e e' : LookupEnc} {k oid} {R : List String} (wf : e.lookup.WF) (c : EntryCase e k e' oid)
    (hpin : PinOK e.lookup R) : Pres (k :: R) e.lookup.data e'.lookup.data := by
  intro k' i' hk' hm'
  obtain ⟨-, ⟨-, -, hmem⟩ | ⟨i, -, -, -, -, hk, hunp, hold⟩⟩ := c.spec wf
  · exact (hmem _).mpr hm'
  · refine (hold k' i').mpr (Or.inr ⟨hm', fun hc => ?_⟩)
    subst hc
    rcases List.mem_cons.mp hk' with rfl | hk'
    · exact hk (List.mem_map.mpr ⟨_, hm', rfl⟩)
    · exact absurd ((hunp k' hm').symm.trans ((hpin.isPinned k').mpr hk')) (by simp)

/-- The keys of the row stay the most recent ones (no sizing hypothesis: an eviction that goes
    through never hits a key of the current row, because those are pinned). -/
theorem EntryCase.recent {e e' : LookupEnc} {k oid} {R : List String} (wf : e.lookup.WF)
    (c : EntryCase e k e' oid) (hrec : Rec e.lookup.data R) (hpin : PinOK e.lookup R) :
    Rec e'.lookup.data (k :: R) := by
  cases c with
  | hit i hm he ho => subst he; simpa using hrec.bump k i
  | fill hk hlt he ho => subst he; simpa using hrec.snoc k _
  | evict k0 i0 rest hk hd hfull hnp he ho =>
    subst he
    have hkeys := wf.keysNodup
    rw [hd] at hrec hkeys
    rcases hrec.cons_cases hkeys with ⟨_, hrest⟩ | hall
    · simpa using hrest.snoc k i0
    · rw [(hpin.isPinned k0).mpr (hall _ List.mem_cons_self)] at hnp; cases hnp

/-- A refusal means that the row does not fit: all `maxSize` resident keys plus the new one belong
    to this row. -/
theorem EntryRefused.not_fits {e : LookupEnc} {k : String} {R T : List String} (wf : e.lookup.WF)
    (r : EntryRefused e k) (hrec : Rec e.lookup.data R) (hpin : PinOK e.lookup R)
    (hsub : ∀ x ∈ k :: R, x ∈ T) : ¬ Fits T e.lookup.maxSize := by
  intro hfit
  obtain ⟨k0, i0, rest, hk, hd, hfull, hp⟩ := r.ex
  have hkeys := wf.keysNodup
  rw [hd] at hrec
  rcases hrec.cons_cases (hd ▸ hkeys) with ⟨hk0, _⟩ | hall
  · exact hk0 ((hpin.isPinned k0).mp hp)
  · have hsub' : ∀ x ∈ k :: e.lookup.data.map (·.1), x ∈ T := by
      intro x hx
      rcases List.mem_cons.mp hx with rfl | hx
      · exact hsub _ List.mem_cons_self
      · obtain ⟨y, hy, rfl⟩ := List.mem_map.mp hx
        exact hsub _ (List.mem_cons_of_mem _ (hall y (hd ▸ hy)))
    have := hfit _ (List.nodup_cons.mpr ⟨hk, hkeys⟩) hsub'
    simp only [List.length_cons, List.length_map] at this
    omega

theorem termIndex_of_mem {e : LookupEnc} (wf : e.lookup.WF) {k i} (h : (k, i) ∈ e.lookup.data) :
    e.termIndex k = .ok ({ e with lookup := e.lookup.bump (k, i), lastReused := i }, i) := by
  unfold LookupEnc.termIndex
  rw [Lookup.moveToEnd_of_mem wf h]
  simp only
  rw [Lookup.find?_of_mem (wf.bump h) ((Lookup.mem_bump h).mpr h)]

/-- The writer table after a reference to the resident key `k`: same content, possibly reordered. -/
structure TermStep (e e' : LookupEnc) (k : String) : Prop where
  wf : e'.lookup.WF
  max : e'.lookup.maxSize = e.lookup.maxSize
  la : e'.lastAssigned = e.lastAssigned
  mem : ∀ x, x ∈ e'.lookup.data ↔ x ∈ e.lookup.data
  recent : ∀ R, Rec e.lookup.data R → k ∈ R → Rec e'.lookup.data R
  pinok : ∀ R, PinOK e.lookup R → k ∈ R → PinOK e'.lookup R

theorem TermStep.same {e : LookupEnc} (wf : e.lookup.WF) (k : String) : TermStep e e k :=
  ⟨wf, rfl, rfl, fun _ => Iff.rfl, fun _ h _ => h, fun _ h _ => h⟩

theorem TermStep.bump {e : LookupEnc} (wf : e.lookup.WF) {k i} (h : (k, i) ∈ e.lookup.data) (r : Nat) :
    TermStep e { e with lookup := e.lookup.bump (k, i), lastReused := r } k :=
  ⟨wf.bump h, by simp, rfl, fun _ => Lookup.mem_bump h,
   fun R hr hk => by
    obtain ⟨old, recent, hd, h1, h2⟩ := hr.bump k i
    exact ⟨old, recent, (Lookup.bump_data _ _).trans hd, fun x hx => h1 x (List.mem_cons_of_mem _ hx),
      fun x hx => (List.mem_cons.mp (h2 x hx)).elim (· ▸ hk) id⟩,
   fun R hp hk => by
    obtain ⟨ps, hps, hi⟩ := hp.cons (Lookup.bump_pinned _ _)
    exact ⟨ps, hps, fun x => (hi x).trans
      ⟨fun h => (List.mem_cons.mp h).elim (· ▸ hk) id, List.mem_cons_of_mem _⟩⟩⟩

theorem TermStep.mirror {e e' : LookupEnc} {k} {t : LookupDec} (s : TermStep e e' k) (m : EMirror e t) :
    EMirror e' t :=
  ⟨by rw [s.max]; exact m.size, by rw [s.max]; exact m.len, by rw [s.la]; exact m.la,
   fun k' i' h => m.res k' i' ((s.mem _).mp h)⟩

/-- A (possibly later) reader table has the writer's pairs for the keys `R`. -/
def AgreeOn (R : List String) (d : List (String × Nat)) (t : LookupDec) : Prop :=
  ∀ k i, k ∈ R → (k, i) ∈ d → 1 ≤ i ∧ i ≤ t.size ∧ t.data[i - 1]? = some (some k)

theorem AgreeOn.of_mirror {e : LookupEnc} {t : LookupDec} (wf : e.lookup.WF) (m : EMirror e t)
    (R : List String) : AgreeOn R e.lookup.data t := by
  intro k i _ h
  have := wf.idx_le_max h
  exact ⟨this.1, by rw [m.size]; exact this.2, m.res k i h⟩

theorem AgreeOn.mono {R R' : List String} {d d' : List (String × Nat)} {t : LookupDec}
    (h : AgreeOn R' d' t) (hp : Pres R d d') (hs : ∀ k ∈ R, k ∈ R') : AgreeOn R d t :=
  fun k i hk hm => h k i (hs k hk) (hp k i hk hm)

theorem slot_eq {t : LookupDec} {i : Nat} (h1 : 1 ≤ i) (h2 : i ≤ t.size) :
    Spec.slot t i = t.data[i - 1]? := by
  unfold Spec.slot
  have a : decide (1 ≤ i) = true := by simpa using h1
  have b : decide (i ≤ t.size) = true := by simpa using h2
  simp [a, b]

/-- What a table needs for the reference `(k ↦ i)` to resolve: the conclusion of `AgreeOn`. -/
def SlotOk (t : LookupDec) (i : Nat) (k : String) : Prop :=
  1 ≤ i ∧ i ≤ t.size ∧ t.data[i - 1]? = some (some k)

theorem SlotOk.lr {t : LookupDec} {i k} (h : SlotOk t i k) (r : Nat) :
    SlotOk { t with lastReused := r } i k := h

theorem resolveName_eq {t : LookupDec} {id i : Nat} {k : String}
    (hid : (if id == 0 then t.lastReused + 1 else id) = i) (h : SlotOk t i k) :
    Spec.resolveName t id = .ok ({ t with lastReused := i }, k) := by
  unfold Spec.resolveName
  simp only [hid]
  rw [slot_eq h.1 h.2.1]
  simp only [h.2.2]

theorem resolvePrefix_eq {t : LookupDec} {id i : Nat} {k : String}
    (hid : (if id == 0 then t.lastReused else id) = i) (h : SlotOk t i k) :
    Spec.resolvePrefix t id = .ok ({ t with lastReused := i }, k) := by
  unfold Spec.resolvePrefix
  have h0 : (i == 0) = false := by have := h.1; simp; omega
  simp only [hid, h0]
  rw [slot_eq h.1 h.2.1]
  simp [h.2.2]

theorem resolveDatatype_eq {t : LookupDec} {i : Nat} {k : String} (h : SlotOk t i k) :
    Spec.resolveDatatype t i = .ok ({ t with lastReused := i }, k) := by
  unfold Spec.resolveDatatype
  have h0 : (i == 0) = false := by have := h.1; simp; omega
  simp only [h0]
  rw [slot_eq h.1 h.2.1]
  simp [h.2.2]

/-- The zero rule of prefix ids (0 = same as the previous one) read back. -/
theorem prefixId_short (lr i : Nat) (hi : 1 ≤ i) :
    (if (if i == lr then 0 else i) == 0 then lr else (if i == lr then 0 else i)) = i := by
  by_cases h : i = lr
  · simp [h]
  · have : (i == 0) = false := by simp; omega
    simp [h, this]

theorem nameTermIndex_exact {e : LookupEnc} (wf : e.lookup.WF) {k i} (hm : (k, i) ∈ e.lookup.data) :
    e.nameTermIndex k = .ok ({ e with lookup := e.lookup.bump (k, i), lastReused := i },
      if i == e.lastReused + 1 then 0 else i) := by
  unfold LookupEnc.nameTermIndex
  rw [termIndex_of_mem wf hm]
  simp only
  split <;> rfl

/-- `prefixTermIndex` on a resident key: either the empty-prefix shortcut (nothing changes, id 0) or
    a reference to index `i`, sent as 0 when it repeats the previous one. -/
theorem prefixTermIndex_exact {e : LookupEnc} (wf : e.lookup.WF) (hpos : 0 < e.lookup.maxSize) {k i}
    (hm : (k, i) ∈ e.lookup.data) :
    e.prefixTermIndex k =
      if k = "" ∧ e.lastReused = 0 then .ok (e, 0)
      else .ok ({ e with lookup := e.lookup.bump (k, i), lastReused := i },
        if i == e.lastReused then 0 else i) := by
  have hi := (wf.idx_range hm).1
  have hne : (e.lookup.maxSize == 0) = false := by simp; omega
  unfold LookupEnc.prefixTermIndex
  simp only [hne, termIndex_of_mem wf hm]
  by_cases h0 : e.lastReused = 0
  · -- no previous id: the empty prefix takes the shortcut, any other is sent as `i ≠ 0` in full
    have : (i == 0) = false := by simp; omega
    by_cases hk : k = "" <;> simp [hk, h0, this]
  · by_cases hc : i = e.lastReused <;> simp [h0, hc]

/-- What the audit and the reference decoder make of the prefix id. -/
theorem prefixTermIndex_step {e : LookupEnc} (wf : e.lookup.WF) (hpos : 0 < e.lookup.maxSize) {k i}
    (hm : (k, i) ∈ e.lookup.data) :
    ∃ e' id, e.prefixTermIndex k = .ok (e', id) ∧ TermStep e e' k ∧
      ((id = 0 ∧ e'.lastReused = e.lastReused) ∨
       (id ≠ 0 ∧ id ≠ e.lastReused ∧ e'.lastReused = id)) ∧
      ∀ t : LookupDec, SlotOk t i k →
        Spec.resolvePrefix { t with lastReused := e.lastReused } id
          = .ok ({ t with lastReused := e'.lastReused }, k) := by
  have hi := (wf.idx_range hm).1
  rw [prefixTermIndex_exact wf hpos hm]
  by_cases hsc : k = "" ∧ e.lastReused = 0
  · rw [if_pos hsc]
    refine ⟨e, 0, rfl, TermStep.same wf k, Or.inl ⟨rfl, rfl⟩, fun t _ => ?_⟩
    unfold Spec.resolvePrefix
    simp [hsc.1, hsc.2]
  · rw [if_neg hsc]
    exact ⟨_, _, rfl, TermStep.bump wf hm i, by split <;> simp_all <;> omega,
      fun t h => resolvePrefix_eq (prefixId_short _ _ hi) (h.lr _)⟩

theorem datatypeTermIndex_exact {e : LookupEnc} (wf : e.lookup.WF) (hpos : 0 < e.lookup.maxSize) {k i}
    (hm : (k, i) ∈ e.lookup.data) :
    e.datatypeTermIndex k = .ok ({ e with lookup := e.lookup.bump (k, i), lastReused := i }, i) := by
  have hne : (e.lookup.maxSize == 0) = false := by simp; omega
  unfold LookupEnc.datatypeTermIndex
  simp only [hne]
  exact termIndex_of_mem wf hm

/-- State of one table after "entry, then reference" for the key `k`. -/
structure Used (e e2 : LookupEnc) (k : String) (oid : Option Nat) (R : List String) : Prop where
  wf : e2.lookup.WF
  max : e2.lookup.maxSize = e.lookup.maxSize
  recent : Rec e2.lookup.data (k :: R)
  pinok : PinOK e2.lookup (k :: R)
  pres : Pres (k :: R) e.lookup.data e2.lookup.data
  mirror : ∀ t, EMirror e t →
    ∃ t', ingestEntry t oid k = .ok t' ∧ EMirror e2 t' ∧ t'.lastReused = t.lastReused

theorem Used.of_case {e e1 e2 : LookupEnc} {k oid} {R : List String} (wf : e.lookup.WF)
    (c : EntryCase e k e1 oid) (s : TermStep e1 e2 k) (hrec : Rec e.lookup.data R)
    (hpin : PinOK e.lookup R) : Used e e2 k oid R :=
  ⟨s.wf, s.max.trans (c.spec wf).1, s.recent _ (c.recent wf hrec hpin) List.mem_cons_self,
    s.pinok _ (hpin.cons c.pinned) List.mem_cons_self, fun k' i' hk' h => (s.mem _).mpr (c.pres wf hpin k' i' hk' h),
    fun t m => by
      obtain ⟨t', h1, h2, h3⟩ := c.mirror wf m
      exact ⟨t', h1, s.mirror h2, h3⟩⟩

/-- `useName` / `usePrefix` / `useDatatype`, one per table, against the reference decoder: either the entry is
    refused — and then the row does not fit — or the bookkeeping is re-established and the emitted id resolves to
    the key. -/
theorem useName {e : LookupEnc} {k : String} {R T : List String} (wf : e.lookup.WF)
    (hpos : 0 < e.lookup.maxSize) (hrec : Rec e.lookup.data R) (hpin : PinOK e.lookup R)
    (hsub : ∀ x ∈ k :: R, x ∈ T) :
    (¬ Fits T e.lookup.maxSize ∧ e.entryIndex k = .error .conformance) ∨
    ∃ e1 oid e2 id, e.entryIndex k = .ok (e1, oid) ∧ e1.nameTermIndex k = .ok (e2, id) ∧
      Used e e2 k oid R ∧
      ∀ t, AgreeOn (k :: R) e2.lookup.data t →
        Spec.resolveName { t with lastReused := e.lastReused } id
          = .ok ({ t with lastReused := e2.lastReused }, k) := by
  rcases entryIndex_cases wf hpos k with ⟨e1, oid, heq, c⟩ | hr
  case inr => exact Or.inl ⟨hr.not_fits wf hrec hpin hsub, hr.err⟩
  obtain ⟨wf1, _, hlr, i, hi⟩ := c.basic wf hpos
  refine Or.inr ⟨e1, oid, _, _, heq, nameTermIndex_exact wf1 hi,
    Used.of_case wf c (TermStep.bump wf1 hi i) hrec hpin, fun t ha => ?_⟩
  rw [hlr]
  exact resolveName_eq (entryId_short _ _ (wf1.idx_range hi).1)
    (SlotOk.lr (ha k i List.mem_cons_self ((Lookup.mem_bump hi).mpr hi)) _)

theorem usePrefix {e : LookupEnc} {k : String} {R T : List String} (wf : e.lookup.WF)
    (hpos : 0 < e.lookup.maxSize) (hrec : Rec e.lookup.data R) (hpin : PinOK e.lookup R)
    (hsub : ∀ x ∈ k :: R, x ∈ T) :
    (¬ Fits T e.lookup.maxSize ∧ e.entryIndex k = .error .conformance) ∨
    ∃ e1 oid e2 id, e.entryIndex k = .ok (e1, oid) ∧ e1.prefixTermIndex k = .ok (e2, id) ∧
      Used e e2 k oid R ∧
      ∀ t, AgreeOn (k :: R) e2.lookup.data t →
        Spec.resolvePrefix { t with lastReused := e.lastReused } id
          = .ok ({ t with lastReused := e2.lastReused }, k) := by
  rcases entryIndex_cases wf hpos k with ⟨e1, oid, heq, c⟩ | hr
  case inr => exact Or.inl ⟨hr.not_fits wf hrec hpin hsub, hr.err⟩
  obtain ⟨wf1, hmax, hlr, i, hi⟩ := c.basic wf hpos
  obtain ⟨e2, id, hti, s, _, hres⟩ := prefixTermIndex_step wf1 (by rw [hmax]; exact hpos) hi
  refine Or.inr ⟨e1, oid, e2, id, heq, hti, Used.of_case wf c s hrec hpin, fun t ha => ?_⟩
  rw [← hlr]
  exact hres t (ha k i List.mem_cons_self ((s.mem _).mpr hi))

theorem useDatatype {e : LookupEnc} {k : String} {R T : List String} (wf : e.lookup.WF)
    (hpos : 0 < e.lookup.maxSize) (hrec : Rec e.lookup.data R) (hpin : PinOK e.lookup R)
    (hsub : ∀ x ∈ k :: R, x ∈ T) :
    (¬ Fits T e.lookup.maxSize ∧ e.entryIndex k = .error .conformance) ∨
    ∃ e1 oid e2 id, e.entryIndex k = .ok (e1, oid) ∧ e1.datatypeTermIndex k = .ok (e2, id) ∧
      Used e e2 k oid R ∧ id ≠ 0 ∧
      ∀ t, AgreeOn (k :: R) e2.lookup.data t →
        Spec.resolveDatatype { t with lastReused := e.lastReused } id
          = .ok ({ t with lastReused := e2.lastReused }, k) := by
  rcases entryIndex_cases wf hpos k with ⟨e1, oid, heq, c⟩ | hr
  case inr => exact Or.inl ⟨hr.not_fits wf hrec hpin hsub, hr.err⟩
  obtain ⟨wf1, hmax, _, i, hi⟩ := c.basic wf hpos
  exact Or.inr ⟨e1, oid, _, i, heq, datatypeTermIndex_exact wf1 (by rw [hmax]; exact hpos) hi,
    Used.of_case wf c (TermStep.bump wf1 hi i) hrec hpin, by have := (wf1.idx_range hi).1; omega,
    fun t ha => resolveDatatype_eq (SlotOk.lr (ha k i List.mem_cons_self ((Lookup.mem_bump hi).mpr hi)) _)⟩

end Jelly
