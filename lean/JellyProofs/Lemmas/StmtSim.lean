import JellyProofs.Lemmas.AuditTerm
import JellyProofs.Lemmas.RowBracket
/-!
# Statement level: one row of the writer against one step of the reference decoder and of its audit

Every row the writer produces (`encodeTriple`, `encodeQuad`, the graph start and graph end of `Stream.graph`) gets
one theorem covering every outcome of the call: either the call raises — and then the row does not fit the lookup
tables —, or the reference decoder follows the rows written, they denote the statement, the invariant `Inv` is
re-established, and (tables mirrored exactly, terms normal) the audit counts nothing.
-/
namespace Jelly

theorem encSlot_sim_gen {P : Preset} {T : Keys} {enc : TermEnc → Term → Res TermEnc (List Row × WTerm)}
    {inG : Bool} {te : TermEnc} {R : Keys} (inv : TInv P T te R) (prev : Option Term) (t : Term)
    (henc : (¬ TFits P T ∧ ∃ te' e, enc te t = (te', .error e)) ∨
      ∃ te' rows w R', enc te t = (te', .ok (rows, w)) ∧ Sim P T te R te' rows R' ∧
        ∀ ss, AgreeT R' te' ss →
          Spec.resolveTerm inG (setLR ss te) w = .ok (setLR ss te', t.norm)) :
    (¬ TFits P T ∧ ∃ te' pv e, encSlot enc te prev t = (te', pv, .error e)) ∨
    ∃ te' rows ow R', encSlot enc te prev t = (te', some t, .ok (rows, ow)) ∧
      Sim P T te R te' rows R' ∧
      ∀ ss prevN, prevN = prev.map Term.norm → AgreeT R' te' ss →
        Spec.resolveSlot inG (setLR ss te) prevN ow = .ok (setLR ss te', t.norm) := by
  by_cases hprev : prev = some t
  · refine Or.inr ⟨te, [], none, R, by simp [encSlot, hprev], Sim.refl inv, ?_⟩
    intro ss prevN hN _
    subst hN hprev
    simp [Spec.resolveSlot]
  · have hb : (prev == some t) = false := by simpa using hprev
    rcases henc with ⟨hnF, te', e, herr⟩ | ⟨te', rows, w, R', heq, hsim, hres⟩
    · exact Or.inl ⟨hnF, te', prev, e, by simp only [encSlot, hb, herr]; simp⟩
    · refine Or.inr ⟨te', rows, some w, R', by simp only [encSlot, hb, heq]; simp, hsim, ?_⟩
      intro ss prevN _ ha
      simp only [Spec.resolveSlot, hres ss ha]

theorem resolveSpo_eq {st a1 a2 a3 : Spec.State} {ws wp wo : Option WTerm} {ts tp to : Term}
    (h1 : Spec.resolveSlot false st st.rep.s ws = .ok (a1, ts))
    (h2 : Spec.resolveSlot false { a1 with rep := { a1.rep with s := some ts } } a1.rep.p wp = .ok (a2, tp))
    (h3 : Spec.resolveSlot false { a2 with rep := { a2.rep with p := some tp } } a2.rep.o wo = .ok (a3, to)) :
    Spec.resolveSpo st ws wp wo = .ok ({ a3 with rep := { a3.rep with o := some to } }, ts, tp, to) := by
  simp only [Spec.resolveSpo, bind, Except.bind, pure, Except.pure, h1, h2, h3]

theorem SpoSlotsErr.encodeTriple {es : EncState} {s p o : Term} (hnb : es.te.broken = false)
    (h : SpoSlotsErr es.te.startRow es.rep s p o) (exc : PyErr) :
    ∃ es' e, encodeTriple exc es [s, p, o] = (es', .error e) := by
  obtain ⟨st', e, hb⟩ := (SpoSlotsErr.bodies (st := { es with te := es.te.startRow }) h exc []).1
  exact ⟨_, e, by rw [encodeTriple_bracket, rowBracket_eq hnb, hb]⟩

theorem SpoSlotsErr.encodeQuad {es : EncState} {s p o g : Term} (hnb : es.te.broken = false)
    (h : SpoSlotsErr es.te.startRow es.rep s p o) (exc : PyErr) :
    ∃ es' e, encodeQuad exc es [s, p, o, g] = (es', .error e) := by
  obtain ⟨st', e, hb⟩ := (SpoSlotsErr.bodies (st := { es with te := es.te.startRow }) h exc [g]).2
  exact ⟨_, e, by rw [encodeQuad_bracket, rowBracket_eq hnb, hb]⟩

theorem spoSlots_sim_gen {P : Preset} {T : Keys} (hpn : 0 < P.maxNames) {te : TermEnc} {R : Keys}
    (inv : TInv P T te R) (rep : Repeated) (s p o : Term)
    (hs : s.WF = true) (hp : p.WF = true) (ho : o.WF = true)
    (ks : (termKeys (P.maxPrefixes != 0) s).sub T) (kp : (termKeys (P.maxPrefixes != 0) p).sub T)
    (ko : (termKeys (P.maxPrefixes != 0) o).sub T) :
    (¬ TFits P T ∧ SpoSlotsErr te rep s p o) ∨
    ∃ te1 te2 te3 r1 r2 r3 ws wp wo R3,
      encSlot TermEnc.spo te rep.s s = (te1, some s, .ok (r1, ws)) ∧
      encSlot TermEnc.spo te1 rep.p p = (te2, some p, .ok (r2, wp)) ∧
      encSlot TermEnc.spo te2 rep.o o = (te3, some o, .ok (r3, wo)) ∧
      Sim P T te R te3 (r1 ++ r2 ++ r3) R3 ∧
      ∀ ss, AgreeT R3 te3 ss → ss.rep.s = rep.s.map Term.norm → ss.rep.p = rep.p.map Term.norm →
        ss.rep.o = rep.o.map Term.norm →
        Spec.resolveSpo (setLR ss te) ws wp wo
          = .ok (setLR { ss with rep := { ss.rep with s := some s.norm, p := some p.norm, o := some o.norm } } te3,
                 s.norm, p.norm, o.norm) := by
  rcases encSlot_sim_gen inv rep.s s (spo_sim_gen hpn s te R hs inv ks) with
    ⟨hnF, te', pv, e, herr⟩ | ⟨te1, r1, ws, R1, e1, s1, res1⟩
  · exact Or.inl ⟨hnF, Or.inl ⟨te', pv, e, herr⟩⟩
  rcases encSlot_sim_gen s1.inv rep.p p (spo_sim_gen hpn p te1 R1 hp s1.inv kp) with
    ⟨hnF, te', pv, e, herr⟩ | ⟨te2, r2, wp, R2, e2, s2, res2⟩
  · exact Or.inl ⟨hnF, Or.inr (Or.inl ⟨te1, _, r1, ws, te', pv, e, e1, herr⟩)⟩
  rcases encSlot_sim_gen s2.inv rep.o o (spo_sim_gen hpn o te2 R2 ho s2.inv ko) with
    ⟨hnF, te', pv, e, herr⟩ | ⟨te3, r3, wo, R3, e3, s3, res3⟩
  · exact Or.inl ⟨hnF, Or.inr (Or.inr ⟨te1, _, r1, ws, te2, _, r2, wp, te', pv, e, e1, e2, herr⟩)⟩
  refine Or.inr ⟨te1, te2, te3, r1, r2, r3, ws, wp, wo, R3, e1, e2, e3, (s1.trans s2).trans s3, ?_⟩
  intro ss ha hrs hrp hro
  have ha2 : AgreeT R2 te2 ss := ha.mono s3.pres s3.sub
  have ha1 : AgreeT R1 te1 ss := ha2.mono s2.pres s2.sub
  have q1 := res1 ss ss.rep.s hrs ha1
  have q2 := res2 { ss with rep := { ss.rep with s := some s.norm } } ss.rep.p hrp ha2
  have q3 := res3 { ss with rep := { ss.rep with s := some s.norm, p := some p.norm } } ss.rep.o hro ha
  exact resolveSpo_eq q1 q2 q3

/-- Writer tables between statements: well-formed, of the declared sizes. -/
structure WFT (P : Preset) (te : TermEnc) : Prop where
  wfn : te.names.lookup.WF
  wfp : te.prefixes.lookup.WF
  wfd : te.datatypes.lookup.WF
  maxn : te.names.lookup.maxSize = P.maxNames
  maxp : te.prefixes.lookup.maxSize = P.maxPrefixes
  maxd : te.datatypes.lookup.maxSize = P.maxDatatypes
  p0 : P.maxPrefixes = 0 → te.prefixes.lastReused = 0

theorem WFT.startRow {P : Preset} {te : TermEnc} (h : WFT P te) : WFT P te.startRow :=
  ⟨h.wfn.congr rfl rfl rfl, h.wfp.congr rfl rfl rfl, h.wfd.congr rfl rfl rfl, h.maxn, h.maxp, h.maxd, h.p0⟩

/-- The start of a row: `startRow` resets the pins, no key has been touched yet. -/
theorem WFT.tinv {P : Preset} {te : TermEnc} (h : WFT P te) (T : Keys) : TInv P T te.startRow {} :=
  ⟨h.startRow.wfn, h.startRow.wfp, h.startRow.wfd, h.maxn, h.maxp, h.maxd, Rec.nil _, Rec.nil _, Rec.nil _,
   PinOK.nil rfl, PinOK.nil rfl, PinOK.nil rfl,
   ⟨fun _ h => by simp at h, fun _ h => by simp at h, fun _ h => by simp at h⟩, h.p0⟩

theorem WFT.endRow {P : Preset} {te : TermEnc} (h : WFT P te) : WFT P te.endRow :=
  ⟨h.wfn.congr rfl rfl rfl, h.wfp.congr rfl rfl rfl, h.wfd.congr rfl rfl rfl, h.maxn, h.maxp, h.maxd, h.p0⟩

theorem TInv.wft {P : Preset} {T : Keys} {te : TermEnc} {R : Keys} (h : TInv P T te R) : WFT P te :=
  ⟨h.wfn, h.wfp, h.wfd, h.maxn, h.maxp, h.maxd, h.p0⟩

theorem setLR_eq_self {ss : Spec.State} {te : TermEnc}
    (hn : ss.names.lastReused = te.names.lastReused)
    (hp : ss.prefixes.lastReused = te.prefixes.lastReused)
    (hd : ss.datatypes.lastReused = te.datatypes.lastReused) : setLR ss te = ss := by
  simp only [setLR, ← hn, ← hp, ← hd]

theorem EM.startRow {te : TermEnc} {ss : Spec.State} (m : EM te ss) : EM te.startRow ss :=
  ⟨m.n.of_pins _ _, m.p.of_pins _ _, m.d.of_pins _ _⟩

theorem EM.agree {P : Preset} {te : TermEnc} {ss : Spec.State} (m : EM te ss) (w : WFT P te) (R : Keys) :
    AgreeT R te ss :=
  ⟨AgreeOn.of_mirror w.wfn m.n _, AgreeOn.of_mirror w.wfp m.p _, AgreeOn.of_mirror w.wfd m.d _⟩

/-- THE invariant between rows, writer state `es` against reference decoder state `ss`: the writer's tables are
    well-formed (`wft`) and the reader's hold their resident pairs (`em`); between rows the reader's three
    `lastReused` cursors ARE the writer's (`lrn`, `lrp`, `lrd`: inside a row they lag, see `setLR`); the reader's
    repeated terms are the writer's up to `Term.norm` (`rs` … `rg`). -/
structure Inv (P : Preset) (es : EncState) (ss : Spec.State) : Prop where
  wft : WFT P es.te
  em : EM es.te ss
  lrn : ss.names.lastReused = es.te.names.lastReused
  lrp : ss.prefixes.lastReused = es.te.prefixes.lastReused
  lrd : ss.datatypes.lastReused = es.te.datatypes.lastReused
  rs : ss.rep.s = es.rep.s.map Term.norm
  rp : ss.rep.p = es.rep.p.map Term.norm
  ro : ss.rep.o = es.rep.o.map Term.norm
  rg : ss.rep.g = es.rep.g.map Term.norm
  /-- The encoder is not broken: the next row can be started. -/
  nb : es.te.broken = false

theorem Inv.graph {P : Preset} {es : EncState} {ss : Spec.State} (inv : Inv P es ss) (x : Option Term) :
    Inv P es { ss with graph := x } :=
  ⟨inv.wft, ⟨inv.em.n, inv.em.p, inv.em.d⟩, inv.lrn, inv.lrp, inv.lrd, inv.rs, inv.rp, inv.ro, inv.rg, inv.nb⟩

/-- The writer's repeated terms are normal (`Term.norm` fixes them), so that the reader's repeated
    terms are literally the same terms. -/
def RepN (r : Repeated) : Prop :=
  r.s.map Term.norm = r.s ∧ r.p.map Term.norm = r.p ∧ r.o.map Term.norm = r.o ∧ r.g.map Term.norm = r.g

theorem WFT.winv {P : Preset} {te : TermEnc} (h : WFT P te) (hp : 0 < P.maxNames) : WInv te :=
  ⟨h.wfn, h.wfp, h.wfd, by rw [h.maxn]; exact hp, fun h0 => h.p0 (h.maxp ▸ h0)⟩

theorem XM.startRow {te : TermEnc} {ss : Spec.State} (m : XM te ss) : XM te.startRow ss :=
  ⟨m.n.of_pins _ _, m.p.of_pins _ _, m.d.of_pins _ _⟩

/-- Closing a row: the reader takes over the writer's `lastReused`; the repeated terms on both sides are given. -/
theorem Inv.close {P : Preset} {ssE : Spec.State} {te' : TermEnc} (m : EM te' ssE) (w : WFT P te')
    {rep srep : Repeated} (hs : srep.s = rep.s.map Term.norm) (hp : srep.p = rep.p.map Term.norm)
    (ho : srep.o = rep.o.map Term.norm) (hg : srep.g = rep.g.map Term.norm) (x : Option Term) :
    Inv P { te := te'.endRow, rep := rep } { (setLR ssE te') with rep := srep, graph := x } :=
  ⟨w.endRow, ⟨m.n.of_pins _ _, m.p.of_pins _ _, m.d.of_pins _ _⟩, rfl, rfl, rfl, hs, hp, ho, hg, rfl⟩

theorem XM.close {ssE : Spec.State} {te' : TermEnc} (m : XM te' ssE) (r : Repeated) (x : Option Term) :
    XM te'.endRow { (setLR ssE te') with rep := r, graph := x } :=
  ⟨m.n.of_pins _ _, m.p.of_pins _ _, m.d.of_pins _ _⟩

theorem run_final_unique {ss s1 s2 : Spec.State} {rows : List Row}
    (h1 : ∀ rest acc i, Spec.run ss (rows ++ rest) acc i = Spec.run s1 rest acc (i + rows.length))
    (h2 : ∀ rest acc i, Spec.run ss (rows ++ rest) acc i = Spec.run s2 rest acc (i + rows.length)) :
    s1 = s2 := by
  have a := h1 [] [] 0
  have b := h2 [] [] 0
  rw [a] at b
  simp only [Spec.run, Prod.mk.injEq] at b
  exact b.1

theorem XM.congr {te : TermEnc} {ss ss' : Spec.State} (m : XM te ss) (hn : ss'.names = ss.names)
    (hp : ss'.prefixes = ss.prefixes) (hd : ss'.datatypes = ss.datatypes) : XM te ss' :=
  ⟨hn ▸ m.n, hp ▸ m.p, hd ▸ m.d⟩

theorem flag_false {ow : Option WTerm} {prev x y : Option Term} {t : Term}
    (f : (ow.isSome && prev == some t) = false) (hx : x = prev) (hy : y = some t) :
    (ow.isSome && x == y) = false := by
  subst hx hy; exact f

/-- The audit of a statement row counts nothing: no present slot repeats the previous term, no id misses its zero
    form. -/
theorem auditRow_quiet {a : Spec.Audit} {flags : List Bool} {z : Nat} (hf : ∀ b ∈ flags, b = false) (hz : z = 0) :
    ({ a with missedRepeat := a.missedRepeat + Spec.countTrue flags, missedZero := a.missedZero + z } : Spec.Audit)
      = a := by
  have : Spec.countTrue flags = 0 := by
    unfold Spec.countTrue
    rw [List.length_eq_zero_iff, List.filter_eq_nil_iff]
    intro b hb; rw [hf b hb]; simp
  rw [this, hz]; rfl

/-- Walking the zero audit over a list of slots from `(ln, lp)` ends in `(ln', lp')` and counts nothing. -/
def ZeroRun (ln lp : Nat) (ws : List (Option WTerm)) (ln' lp' : Nat) : Prop :=
  ∀ c, ws.foldl (fun (acc : Nat × Nat × Nat) t => Spec.optZeroAudit acc.1 acc.2.1 acc.2.2 t) (ln, lp, c) = (ln', lp', c)

theorem ZeroRun.nil (ln lp : Nat) : ZeroRun ln lp [] ln lp := fun _ => rfl

theorem ZeroRun.cons {ln lp ln₁ lp₁ ln' lp' : Nat} {w : Option WTerm} {ws : List (Option WTerm)}
    (z : ∀ c, Spec.optZeroAudit ln lp c w = (ln₁, lp₁, c)) (h : ZeroRun ln₁ lp₁ ws ln' lp') :
    ZeroRun ln lp (w :: ws) ln' lp' := fun c => by
  rw [List.foldl_cons]; simp only [z]; exact h c

theorem ZeroRun.audit {st : Spec.State} {ln lp ln' lp' : Nat} {ws : List (Option WTerm)}
    (hn : st.names.lastReused = ln) (hp : st.prefixes.lastReused = lp) (h : ZeroRun ln lp ws ln' lp') :
    Spec.slotsZeroAudit st ws = 0 := by
  unfold Spec.slotsZeroAudit; rw [hn, hp, h 0]

/-- The segment relation of the writer side: from `ss` the reference decoder accepts `rows`, ends in `ss'` and has
    added the events `evs` — stated against any continuation `rest`, so that segments compose (`RunsTo.trans`). -/
def RunsTo (ss : Spec.State) (rows : List Row) (ss' : Spec.State) (evs : List Event) : Prop :=
  ∀ rest acc i, Spec.run ss (rows ++ rest) acc i = Spec.run ss' rest (acc ++ evs) (i + rows.length)

theorem RunsTo.nil (ss : Spec.State) : RunsTo ss [] ss [] := by
  intro rest acc i; simp

theorem RunsTo.trans {a b c : Spec.State} {r₁ r₂ : List Row} {e₁ e₂ : List Event}
    (h₁ : RunsTo a r₁ b e₁) (h₂ : RunsTo b r₂ c e₂) : RunsTo a (r₁ ++ r₂) c (e₁ ++ e₂) := by
  intro rest acc i
  rw [List.append_assoc, h₁, h₂, List.append_assoc, List.length_append, Nat.add_assoc]

theorem RunsTo.final {a b : Spec.State} {r : List Row} {e : List Event} (h : RunsTo a r b e)
    (acc : List Event) (i : Nat) : Spec.run a r acc i = (b, acc ++ e, none) := by
  have := h [] acc i
  rw [List.append_nil] at this
  rw [this]; rfl

theorem Spec.run_acc_prefix : ∀ (rows : List Row) (st : Spec.State) (acc : List Event) (i : Nat),
    acc <+: (Spec.run st rows acc i).2.1 := by
  intro rows
  induction rows with
  | nil => intro st acc i; simp [Spec.run]
  | cons r rs ih =>
    intro st acc i
    simp only [Spec.run]
    cases h : Spec.step st r with
    | error v => simp
    | ok x =>
      obtain ⟨st', ev⟩ := x
      exact (List.prefix_append acc ev.toList).trans (ih st' _ _)

theorem Spec.run_append_ok : ∀ (r₁ r₂ : List Row) (st : Spec.State) (acc : List Event) (i : Nat)
    (st' : Spec.State) (evs : List Event),
    Spec.run st (r₁ ++ r₂) acc i = (st', evs, none) →
    ∃ st₁ evs₁, Spec.run st r₁ acc i = (st₁, evs₁, none) ∧
      Spec.run st₁ r₂ evs₁ (i + r₁.length) = (st', evs, none) := by
  intro r₁
  induction r₁ with
  | nil => intro r₂ st acc i st' evs h; exact ⟨st, acc, rfl, by simpa using h⟩
  | cons r rs ih =>
    intro r₂ st acc i st' evs h
    simp only [List.cons_append, Spec.run] at h ⊢
    cases hs : Spec.step st r with
    | error v => rw [hs] at h; simp at h
    | ok x =>
      obtain ⟨st1, ev⟩ := x
      rw [hs] at h
      obtain ⟨st₁, evs₁, h1, h2⟩ := ih r₂ st1 _ _ st' evs h
      refine ⟨st₁, evs₁, h1, ?_⟩
      have : i + (rs.length + 1) = i + 1 + rs.length := by omega
      simpa [this] using h2

theorem Spec.runRows_prefix {r₁ r₂ : List Row} {st : Spec.State} {evs : List Event}
    (h : Spec.runRows (r₁ ++ r₂) = (st, evs, none)) :
    ∃ st₁ evs₁, Spec.runRows r₁ = (st₁, evs₁, none) ∧ evs₁ <+: evs := by
  obtain ⟨st₁, evs₁, h1, h2⟩ := Spec.run_append_ok r₁ r₂ {} [] 0 st evs h
  refine ⟨st₁, evs₁, h1, ?_⟩
  have := Spec.run_acc_prefix r₂ st₁ evs₁ (0 + r₁.length)
  rw [h2] at this
  exact this

theorem RunsTo.of_row {ss ssE ss' : Spec.State} {rows : List Row} {r : Row} {ev : Option Event}
    (hrun : ∀ rest acc i, Spec.run ss (rows ++ rest) acc i = Spec.run ssE rest acc (i + rows.length))
    (hstep : Spec.step ssE r = .ok (ss', ev)) : RunsTo ss (rows ++ [r]) ss' ev.toList := by
  intro rest acc i
  rw [List.append_assoc, hrun, List.singleton_append, run_cons_ok hstep]
  simp only [List.length_append, List.length_cons, List.length_nil, Nat.add_assoc]

/-- A triple row of a TRIPLES stream (`gq = []`) or inside the open graph `gn` of a GRAPHS stream (`gq = [gn]`). -/
theorem step_triple {st st' : Spec.State} {o : Options} {ws wp wo : Option WTerm} {ts tp to : Term} {gq : List Term}
    (ho : st.opts = some o)
    (hph : (o.physicalType = 1 ∧ gq = []) ∨ (o.physicalType = 3 ∧ ∃ gn, st.graph = some gn ∧ gq = [gn]))
    (hres : Spec.resolveSpo st ws wp wo = .ok (st', ts, tp, to)) :
    Spec.step st (Row.triple ws wp wo) = .ok (st', some (Event.stmt ([ts, tp, to] ++ gq))) := by
  rcases hph with ⟨h1, rfl⟩ | ⟨h3, gn, hgr, rfl⟩
  · have h1b : (o.physicalType == 1) = true := by simp [h1]
    unfold Spec.step
    simp only [ho, h1b, if_true, hres, bind, Except.bind, pure, Except.pure, List.append_nil]
  · have h1b : (o.physicalType == 1) = false := by simp [h3]
    have h3b : (o.physicalType == 3) = true := by simp [h3]
    unfold Spec.step
    simp only [ho, h1b, h3b, if_true, hgr, hres, bind, Except.bind, pure, Except.pure]
    simp

theorem step_quad {st s1 st' : Spec.State} {o : Options} {ws wp wo wg : Option WTerm} {ts tp to tg : Term}
    (ho : st.opts = some o) (h2 : o.physicalType = 2)
    (hres : Spec.resolveSpo st ws wp wo = .ok (s1, ts, tp, to))
    (hres4 : Spec.resolveSlot true s1 s1.rep.g wg = .ok (st', tg)) :
    Spec.step st (Row.quad ws wp wo wg)
      = .ok ({ st' with rep := { st'.rep with g := some tg } }, some (Event.stmt [ts, tp, to, tg])) := by
  have h2b : (o.physicalType == 2) = true := by simp [h2]
  unfold Spec.step
  simp only [ho, h2b, if_true, hres, hres4, bind, Except.bind, pure, Except.pure]

theorem step_graphStart {st st' : Spec.State} {o : Options} {w : WTerm} {tg : Term}
    (ho : st.opts = some o) (h3 : o.physicalType = 3) (hres : Spec.resolveTerm true st w = .ok (st', tg)) :
    Spec.step st (Row.graphStart (some w)) = .ok ({ st' with graph := some tg }, none) := by
  have h3b : (o.physicalType == 3) = true := by simp [h3]
  unfold Spec.step
  simp only [ho, h3b, if_true, hres, bind, Except.bind, pure, Except.pure]

theorem step_graphEnd {st : Spec.State} {o : Options} {gn : Term}
    (ho : st.opts = some o) (h3 : o.physicalType = 3) (hgr : st.graph = some gn) :
    Spec.step st Row.graphEnd = .ok ({ st with graph := none }, none) := by
  have h3b : (o.physicalType == 3) = true := by simp [h3]
  unfold Spec.step
  simp only [ho, h3b, if_true, hgr]

/-- The entry rows of a row started from an in-step state: the reference decoder accepts them and ends in a
    state `ssE` that differs from `ss` only in the table entries, mirrors the tables of `te'` and has the
    writer's pairs for every key of the row. -/
theorem Inv.ingest {P : Preset} {T : Keys} {es : EncState} {ss : Spec.State} {te' : TermEnc} {rows : List Row}
    {R' : Keys} (inv : Inv P es ss) (hopts : ss.opts ≠ none) (sim : Sim P T es.te.startRow {} te' rows R') :
    ∃ ssE, (∀ rest acc i, Spec.run ss (rows ++ rest) acc i = Spec.run ssE rest acc (i + rows.length)) ∧
      SameFrame ss ssE ∧ EM te' ssE ∧ AgreeT R' te' ssE ∧ setLR ssE es.te.startRow = ssE := by
  obtain ⟨ssE, mE, fE, runE⟩ := sim.ing ss inv.em.startRow hopts
  exact ⟨ssE, runE, fE, mE, mE.agree sim.inv.wft R',
    setLR_eq_self (fE.lrn.trans inv.lrn) (fE.lrp.trans inv.lrp) (fE.lrd.trans inv.lrd)⟩

/-- The same rows seen by the audit, from exactly mirrored tables: nothing is counted. -/
theorem XM.ingest {es : EncState} {ss ssE : Spec.State} {te' : TermEnc} {rows : List Row} (xm : XM es.te ss)
    (hopts : ss.opts ≠ none) (ga : IngestsA es.te.startRow te' rows)
    (hrun : ∀ rest acc i, Spec.run ss (rows ++ rest) acc i = Spec.run ssE rest acc (i + rows.length)) :
    XM te' ssE ∧ ∀ lc a rest, Spec.runAudit ss lc a (rows ++ rest) = Spec.runAudit ssE lc a rest := by
  obtain ⟨ssA, xA, _, runA, audA⟩ := ga ss xm.startRow hopts
  obtain rfl : ssA = ssE := run_final_unique runA hrun
  exact ⟨xA, audA⟩

/-- After a row that leaves the repeated terms alone (graph start, namespace declaration). -/
theorem Inv.after_row {P : Preset} {es : EncState} {ss ssE : Spec.State} {te' : TermEnc} (inv : Inv P es ss)
    (f : SameFrame ss ssE) (m : EM te' ssE) (w : WFT P te') (x : Option Term) :
    Inv P { es with te := te'.endRow } { (setLR ssE te') with graph := x } :=
  Inv.close m w (f.rep ▸ inv.rs) (f.rep ▸ inv.rp) (f.rep ▸ inv.ro) (f.rep ▸ inv.rg) x

/-- The audit's side of an accepted statement call, from exactly mirrored tables: the exact mirror is kept, the
    entry rows are not counted, and for normal terms `ts` the statement row `row` is not counted either. -/
structure RowAudit (es : EncState) (ts : List Term) (es' : EncState) (rows : List Row) (ss ssE ss' : Spec.State)
    (row : Row) : Prop where
  xm : XM es'.te ss'
  entries : ∀ lc a rest, Spec.runAudit ss lc a (rows ++ rest) = Spec.runAudit ssE lc a rest
  quiet : RepN es.rep → (∀ t ∈ ts, t.norm = t) → RepN es'.rep ∧ ∀ a, Spec.auditRow ssE ss' row a = a

/-- What an accepted statement call guarantees: the entry rows `rows` are ingested (from `ss` to `ssE`, same frame),
    and with `ss'` the state after the statement row `row` the invariant holds again. -/
structure RowSim (P : Preset) (es : EncState) (ts : List Term) (es' : EncState) (rows : List Row)
    (ss ssE ss' : Spec.State) (row : Row) : Prop where
  run : ∀ rest acc i, Spec.run ss (rows ++ rest) acc i = Spec.run ssE rest acc (i + rows.length)
  frame : SameFrame ss ssE
  inv : Inv P es' ss'
  opts : ss'.opts = ss.opts
  graph : ss'.graph = ss.graph
  aud : XM es.te ss → RowAudit es ts es' rows ss ssE ss' row

/-- `encodeTriple`, every outcome: refused, and then the keys do not fit, or the three slots resolve at the statement
    row. -/
theorem encodeTriple_sim_gen {P : Preset} {T : Keys} (hpn : 0 < P.maxNames) {es : EncState} {ss : Spec.State}
    (inv : Inv P es ss) (hopts : ss.opts ≠ none) (exc : PyErr) (s p o : Term)
    (hs : s.WF = true) (hp : p.WF = true) (ho : o.WF = true)
    (ks : (termKeys (P.maxPrefixes != 0) s).sub T) (kp : (termKeys (P.maxPrefixes != 0) p).sub T)
    (ko : (termKeys (P.maxPrefixes != 0) o).sub T) :
    (¬ TFits P T ∧ ∃ es' e, encodeTriple exc es [s, p, o] = (es', .error e)) ∨
    ∃ es' rows ws wp wo ssE ss',
      encodeTriple exc es [s, p, o] = (es', .ok (rows ++ [Row.triple ws wp wo])) ∧
      Spec.resolveSpo ssE ws wp wo = .ok (ss', s.norm, p.norm, o.norm) ∧
      RowSim P es [s, p, o] es' rows ss ssE ss' (Row.triple ws wp wo) := by
  rcases spoSlots_sim_gen hpn (inv.wft.tinv T) es.rep s p o hs hp ho ks kp ko with
    ⟨hnF, herr⟩ | ⟨te1, te2, te3, r1, r2, r3, ws, wp, wo, R3, e1, e2, e3, sim, res⟩
  · exact Or.inl ⟨hnF, herr.encodeTriple inv.nb exc⟩
  right
  obtain ⟨ssE, runE, fE, mE, ha, hself⟩ := inv.ingest hopts sim
  have hres := res ssE ha (fE.rep ▸ inv.rs) (fE.rep ▸ inv.rp) (fE.rep ▸ inv.ro)
  rw [hself] at hres
  refine ⟨{ te := te3.endRow, rep := { es.rep with s := some s, p := some p, o := some o } },
    r1 ++ r2 ++ r3, ws, wp, wo, ssE, _, ?_, hres, runE, fE,
    Inv.close mE sim.inv.wft rfl rfl rfl (fE.rep ▸ inv.rg) ssE.graph, fE.opts, fE.graph, fun xm => ?_⟩
  · rw [encodeTriple_bracket, rowBracket_eq inv.nb,
      encodeTripleBody_of_slots (st := { es with te := es.te.startRow })
        ⟨_, _, _, _, _, _, _, _, e1, e2, e3, rfl, rfl⟩]
  · obtain ⟨g1, f1⟩ := encSlot_good (spo_good s) (inv.wft.startRow.winv hpn) e1
    obtain ⟨g2, f2⟩ := encSlot_good (spo_good p) g1.inv e2
    obtain ⟨g3, f3⟩ := encSlot_good (spo_good o) g2.inv e3
    obtain ⟨xA, audA⟩ := xm.ingest hopts ((g1.ing.trans g2.ing).trans g3.ing) runE
    refine ⟨xA.close _ _, audA, fun ⟨rns, rnp, rno, rng⟩ hn => ?_⟩
    have ns := hn s (.head _)
    have np := hn p (.tail _ (.head _))
    have no := hn o (.tail _ (.tail _ (.head _)))
    refine ⟨⟨congrArg some ns, congrArg some np, congrArg some no, rng⟩, fun a => auditRow_quiet ?_ ?_⟩
    · simp only [List.mem_cons, List.not_mem_nil, or_false, forall_eq_or_imp, forall_eq]
      exact ⟨flag_false f1 (by rw [fE.rep, inv.rs, rns]) (congrArg some ns),
        flag_false f2 (by rw [fE.rep, inv.rp, rnp]) (congrArg some np),
        flag_false f3 (by rw [fE.rep, inv.ro, rno]) (congrArg some no)⟩
    · exact ZeroRun.audit (fE.lrn.trans inv.lrn) (fE.lrp.trans inv.lrp)
        (.cons g1.zero (.cons g2.zero (.cons g3.zero (.nil _ _))))

theorem encodeTriple_sim {P : Preset} {T : Keys} (hf : TFits P T) {es : EncState} {ss : Spec.State}
    (inv : Inv P es ss) (hopts : ss.opts ≠ none) (exc : PyErr) (s p o : Term)
    (hs : s.WF = true) (hp : p.WF = true) (ho : o.WF = true)
    (ks : (termKeys (P.maxPrefixes != 0) s).sub T) (kp : (termKeys (P.maxPrefixes != 0) p).sub T)
    (ko : (termKeys (P.maxPrefixes != 0) o).sub T) :
    ∃ es' rows ws wp wo ssE ss',
      encodeTriple exc es [s, p, o] = (es', .ok (rows ++ [Row.triple ws wp wo])) ∧
      (∀ rest acc i, Spec.run ss (rows ++ rest) acc i = Spec.run ssE rest acc (i + rows.length)) ∧
      SameFrame ss ssE ∧
      Spec.resolveSpo ssE ws wp wo = .ok (ss', s.norm, p.norm, o.norm) ∧
      Inv P es' ss' ∧ ss'.opts = ss.opts ∧ ss'.graph = ss.graph := by
  rcases encodeTriple_sim_gen hf.posn inv hopts exc s p o hs hp ho ks kp ko with
    ⟨h, -⟩ | ⟨es', rows, ws, wp, wo, ssE, ss', heq, hres, sim⟩
  · exact absurd hf h
  · exact ⟨es', rows, ws, wp, wo, ssE, ss', heq, sim.run, sim.frame, hres, sim.inv, sim.opts, sim.graph⟩

theorem encodeQuad_sim_gen {P : Preset} {T : Keys} (hpn : 0 < P.maxNames) {es : EncState} {ss : Spec.State}
    (inv : Inv P es ss) (hopts : ss.opts ≠ none) (exc : PyErr) (s p o g : Term)
    (hs : s.WF = true) (hp : p.WF = true) (ho : o.WF = true) (hg : g.WFGraph = true)
    (ks : (termKeys (P.maxPrefixes != 0) s).sub T) (kp : (termKeys (P.maxPrefixes != 0) p).sub T)
    (ko : (termKeys (P.maxPrefixes != 0) o).sub T) (kg : (termKeys (P.maxPrefixes != 0) g).sub T) :
    (¬ TFits P T ∧ ∃ es' e, encodeQuad exc es [s, p, o, g] = (es', .error e)) ∨
    ∃ es' rows ws wp wo wg ssE ss1 ss',
      encodeQuad exc es [s, p, o, g] = (es', .ok (rows ++ [Row.quad ws wp wo wg])) ∧
      Spec.resolveSpo ssE ws wp wo = .ok (ss1, s.norm, p.norm, o.norm) ∧
      Spec.resolveSlot true ss1 ss1.rep.g wg = .ok (ss', g.norm) ∧
      RowSim P es [s, p, o, g] es' rows ss ssE { ss' with rep := { ss'.rep with g := some g.norm } }
        (Row.quad ws wp wo wg) := by
  rcases spoSlots_sim_gen hpn (inv.wft.tinv T) es.rep s p o hs hp ho ks kp ko with
    ⟨hnF, herr⟩ | ⟨te1, te2, te3, r1, r2, r3, ws, wp, wo, R3, e1, e2, e3, sim3, res⟩
  · exact Or.inl ⟨hnF, herr.encodeQuad inv.nb exc⟩
  have hgraph : (¬ TFits P T ∧ ∃ te' e, te3.graph g = (te', .error e)) ∨
      ∃ te' rows w R', te3.graph g = (te', .ok (rows, w)) ∧ Sim P T te3 R3 te' rows R' ∧
        ∀ ss, AgreeT R' te' ss → Spec.resolveTerm true (setLR ss te3) w = .ok (setLR ss te', g.norm) := by
    rcases graph_sim_gen hpn g te3 R3 sim3.inv kg with ⟨h, hnF⟩ | ⟨te', rows, w, R', x, heq, hsim, hx, hres⟩
    · exact Or.inl ⟨hnF hg, h⟩
    · exact Or.inr ⟨te', rows, w, R', heq, hsim, hx hg ▸ hres⟩
  have slots : SpoSlots es.te.startRow es.rep s p o te3 _ _ ws wp wo := ⟨_, _, _, _, _, _, _, _, e1, e2, e3, rfl, rfl⟩
  have hbody := fun (exc : PyErr) => encodeQuadBody_of_slots (exc := exc) (st := { es with te := es.te.startRow })
    (g := g) (rest := []) slots
  rcases encSlot_sim_gen sim3.inv es.rep.g g hgraph with
    ⟨hnF, te', pv, e, herr⟩ | ⟨te4, r4, wg, R4, e4, s4, res4⟩
  · exact Or.inl ⟨hnF, { te := te', rep := es.rep }, e, by
      rw [encodeQuad_bracket, rowBracket_eq inv.nb, hbody]; simp only [herr]⟩
  right
  have sim := sim3.trans s4
  obtain ⟨ssE, runE, fE, mE, ha4, hself⟩ := inv.ingest hopts sim
  have hres := res ssE (ha4.mono s4.pres s4.sub) (fE.rep ▸ inv.rs) (fE.rep ▸ inv.rp) (fE.rep ▸ inv.ro)
  rw [hself] at hres
  have hres4 := res4 { ssE with rep := { ssE.rep with s := some s.norm, p := some p.norm, o := some o.norm } }
    ssE.rep.g (by rw [fE.rep]; exact inv.rg) ha4
  refine ⟨{ te := te4.endRow, rep := { s := some s, p := some p, o := some o, g := some g } },
    r1 ++ r2 ++ r3 ++ r4, ws, wp, wo, wg, ssE, _, _, ?_, hres, hres4, runE, fE,
    Inv.close mE sim.inv.wft rfl rfl rfl rfl ssE.graph, fE.opts, fE.graph, fun xm => ?_⟩
  · rw [encodeQuad_bracket, rowBracket_eq inv.nb, hbody]; simp only [e4]
  · obtain ⟨g1, f1⟩ := encSlot_good (spo_good s) (inv.wft.startRow.winv hpn) e1
    obtain ⟨g2, f2⟩ := encSlot_good (spo_good p) g1.inv e2
    obtain ⟨g3, f3⟩ := encSlot_good (spo_good o) g2.inv e3
    obtain ⟨g4, f4⟩ := encSlot_good (graph_good g) g3.inv e4
    obtain ⟨xA, audA⟩ := xm.ingest hopts (((g1.ing.trans g2.ing).trans g3.ing).trans g4.ing) runE
    refine ⟨xA.close _ _, audA, fun ⟨rns, rnp, rno, rng⟩ hn => ?_⟩
    have ns := hn s (.head _)
    have np := hn p (.tail _ (.head _))
    have no := hn o (.tail _ (.tail _ (.head _)))
    have ng := hn g (.tail _ (.tail _ (.tail _ (.head _))))
    refine ⟨⟨congrArg some ns, congrArg some np, congrArg some no, congrArg some ng⟩, fun a => auditRow_quiet ?_ ?_⟩
    · simp only [List.mem_cons, List.not_mem_nil, or_false, forall_eq_or_imp, forall_eq]
      exact ⟨flag_false f1 (by rw [fE.rep, inv.rs, rns]) (congrArg some ns),
        flag_false f2 (by rw [fE.rep, inv.rp, rnp]) (congrArg some np),
        flag_false f3 (by rw [fE.rep, inv.ro, rno]) (congrArg some no),
        flag_false f4 (by rw [fE.rep, inv.rg, rng]) (congrArg some ng)⟩
    · exact ZeroRun.audit (fE.lrn.trans inv.lrn) (fE.lrp.trans inv.lrp)
        (.cons g1.zero (.cons g2.zero (.cons g3.zero (.cons g4.zero (.nil _ _)))))

theorem encodeQuad_sim {P : Preset} {T : Keys} (hf : TFits P T) {es : EncState} {ss : Spec.State}
    (inv : Inv P es ss) (hopts : ss.opts ≠ none) (exc : PyErr) (s p o g : Term)
    (hs : s.WF = true) (hp : p.WF = true) (ho : o.WF = true) (hg : g.WFGraph = true)
    (ks : (termKeys (P.maxPrefixes != 0) s).sub T) (kp : (termKeys (P.maxPrefixes != 0) p).sub T)
    (ko : (termKeys (P.maxPrefixes != 0) o).sub T) (kg : (termKeys (P.maxPrefixes != 0) g).sub T) :
    ∃ es' rows ws wp wo wg ssE ss1 ss',
      encodeQuad exc es [s, p, o, g] = (es', .ok (rows ++ [Row.quad ws wp wo wg])) ∧
      (∀ rest acc i, Spec.run ss (rows ++ rest) acc i = Spec.run ssE rest acc (i + rows.length)) ∧
      SameFrame ss ssE ∧
      Spec.resolveSpo ssE ws wp wo = .ok (ss1, s.norm, p.norm, o.norm) ∧
      Spec.resolveSlot true ss1 ss1.rep.g wg = .ok (ss', g.norm) ∧
      Inv P es' { ss' with rep := { ss'.rep with g := some g.norm } } ∧
      ss'.opts = ss.opts ∧ ss'.graph = ss.graph := by
  rcases encodeQuad_sim_gen hf.posn inv hopts exc s p o g hs hp ho hg ks kp ko kg with
    ⟨h, -⟩ | ⟨es', rows, ws, wp, wo, wg, ssE, ss1, ss', heq, hres, hres4, sim⟩
  · exact absurd hf h
  · exact ⟨es', rows, ws, wp, wo, wg, ssE, ss1, ss', heq, sim.run, sim.frame, hres, hres4, sim.inv, sim.opts, sim.graph⟩

/-- The graph-start part of `Stream.graph` for ANY graph term, every outcome: refused — a well-formed graph name
    only because it does not fit —, or the entry rows and the graph start row are accepted by the reference
    decoder, which then has the graph `x` open (whatever it had before); `x` is the normal form of the term when
    the term is a well-formed graph name. The audit counts nothing unless `x` is the graph closed last. -/
theorem graphStart_sim_gen {P : Preset} {T : Keys} (hpn : 0 < P.maxNames) {es : EncState} {ss : Spec.State}
    (inv : Inv P es ss) {o : Options} (hopt : ss.opts = some o) (h3 : o.physicalType = 3) (g : Term)
    (kg : (termKeys (P.maxPrefixes != 0) g).sub T) :
    ((∃ te' e, es.te.startRow.graph g = (te', .error e)) ∧ (g.WFGraph = true → ¬ TFits P T)) ∨
    ∃ te' rows w, ∃ ss' : Spec.State, ∃ x,
      es.te.startRow.graph g = (te', .ok (rows, w)) ∧ (g.WFGraph = true → x = g.norm) ∧
      (∀ y, Inv P { es with te := te'.endRow } { ss' with graph := y }) ∧ ss'.opts = some o ∧
      RunsTo ss (rows ++ [Row.graphStart (some w)]) { ss' with graph := some x } [] ∧
      (XM es.te ss → (∀ y, XM te'.endRow { ss' with graph := y }) ∧ ∀ lc a rest, lc ≠ some x →
        Spec.runAudit ss lc a (rows ++ [Row.graphStart (some w)] ++ rest)
          = Spec.runAudit { ss' with graph := some x } none a rest) := by
  rcases graph_sim_gen hpn g es.te.startRow {} (inv.wft.tinv T) kg with
    h | ⟨te', rows, w, R', x, heq, sim, hx, res⟩
  · exact Or.inl h
  right
  obtain ⟨ssE, runE, fE, mE, ha, hself⟩ := inv.ingest (by rw [hopt]; simp) sim
  have hres := res ssE ha
  rw [hself] at hres
  have hstep := step_graphStart (fE.opts.trans hopt) h3 hres
  refine ⟨te', rows, w, _, x, heq, hx, inv.after_row fE mE sim.inv.wft,
    fE.opts.trans hopt, RunsTo.of_row runE hstep, fun xm => ?_⟩
  have g1 := graph_good g es.te.startRow te' rows w (inv.wft.startRow.winv hpn) heq
  obtain ⟨xA, audA⟩ := xm.ingest (by rw [hopt]; simp) g1.ing runE
  refine ⟨xA.close _, fun lc a rest hlc => ?_⟩
  have hz := ZeroRun.audit (st := ssE) (fE.lrn.trans inv.lrn) (fE.lrp.trans inv.lrp) (.cons g1.zero (.nil _ _))
  have hne : (some x == lc) = false := by
    simpa using fun h : some x = lc => hlc h.symm
  rw [List.append_assoc, audA, List.singleton_append]
  simp only [Spec.runAudit, hstep, Spec.auditRow, hz, Option.isSome_some, Bool.true_and, hne]
  rfl

theorem graphStart_sim {P : Preset} {T : Keys} (hf : TFits P T) {es : EncState} {ss : Spec.State}
    (inv : Inv P es ss) (hopts : ss.opts ≠ none) (g : Term) (hg : g.WFGraph = true)
    (kg : (termKeys (P.maxPrefixes != 0) g).sub T) :
    ∃ te' rows w ssE ss',
      es.te.startRow.graph g = (te', .ok (rows, w)) ∧
      (∀ rest acc i, Spec.run ss (rows ++ rest) acc i = Spec.run ssE rest acc (i + rows.length)) ∧
      SameFrame ss ssE ∧
      Spec.resolveTerm true ssE w = .ok (ss', g.norm) ∧
      (∀ x, Inv P { es with te := te'.endRow } { ss' with graph := x }) ∧ ss'.opts = ss.opts := by
  rcases graph_sim_gen hf.posn g es.te.startRow {} (inv.wft.tinv T) kg with
    ⟨_, h⟩ | ⟨te', rows, w, R', x, heq, sim, hx, res⟩
  · exact absurd hf (h hg)
  obtain ⟨ssE, runE, fE, mE, ha, hself⟩ := inv.ingest hopts sim
  have hres := res ssE ha
  rw [hself, hx hg] at hres
  exact ⟨te', rows, w, ssE, _, heq, runE, fE, hres, inv.after_row fE mE sim.inv.wft, fE.opts⟩

theorem graphStart_run {P : Preset} {T : Keys} (hf : TFits P T) {es : EncState} {ss : Spec.State}
    (inv : Inv P es ss) {o : Options} (hopt : ss.opts = some o) (h3 : o.physicalType = 3)
    (g : Term) (hg : g.WFGraph = true) (kg : (termKeys (P.maxPrefixes != 0) g).sub T) :
    ∃ te' rows w ss', es.te.startRow.graph g = (te', .ok (rows, w)) ∧ Inv P { es with te := te'.endRow } ss' ∧
      ss'.opts = some o ∧ ss'.graph = some g.norm ∧
      ∀ rest acc i, Spec.run ss (rows ++ [Row.graphStart (some w)] ++ rest) acc i
        = Spec.run ss' rest acc (i + (rows ++ [Row.graphStart (some w)]).length) := by
  rcases graphStart_sim_gen hf.posn inv hopt h3 g kg with
    ⟨_, h⟩ | ⟨te', rows, w, ss', x, heq, hx, inv', ho', hrun, _⟩
  · exact absurd hf (h hg)
  · refine ⟨te', rows, w, { ss' with graph := some g.norm }, heq, inv' _, ho', rfl, fun rest acc i => ?_⟩
    rw [← hx hg, hrun, List.append_nil]

theorem graphEnd_sim_gen {P : Preset} {es : EncState} {ss : Spec.State} (inv : Inv P es ss) {o : Options}
    (hopt : ss.opts = some o) (h3 : o.physicalType = 3) {gn : Term} (hgr : ss.graph = some gn) :
    Inv P es { ss with graph := none } ∧ RunsTo ss [Row.graphEnd] { ss with graph := none } [] ∧
      ∀ lc a rest, Spec.runAudit ss lc a (Row.graphEnd :: rest)
        = Spec.runAudit { ss with graph := none } (some gn) a rest := by
  have hstep := step_graphEnd hopt h3 hgr
  refine ⟨inv.graph none, RunsTo.of_row (rows := []) (fun _ _ _ => rfl) hstep, fun lc a rest => ?_⟩
  simp only [Spec.runAudit, hstep, Spec.auditRow, hgr]

end Jelly
