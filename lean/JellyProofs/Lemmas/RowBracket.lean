import JellyModel.Encode
/-!
# Row bracketing: `beginRow` / `endRow` around the statement bodies

`encodeTriple` / `encodeQuad` are one function of their body (`rowBracket`): `beginRow` (refused on a broken
encoder), the body on the started encoder, and then either `endRow` (success) or the repeated terms put back
(failure). The lemmas split a call into those pieces, once for every body.
-/
namespace Jelly

theorem TermEnc.beginRow_ok {te : TermEnc} (h : te.broken = false) : te.beginRow = .ok te.startRow := by
  simp only [TermEnc.beginRow, h, Bool.false_eq_true, if_false]

theorem TermEnc.beginRow_broken {te : TermEnc} (h : te.broken = true) : te.beginRow = .error .conformance := by
  simp only [TermEnc.beginRow, h, if_true]

@[simp] theorem TermEnc.endRow_broken (te : TermEnc) : te.endRow.broken = false := rfl

theorem TermEnc.broken_of_rowOpen_false {te : TermEnc} (h : te.rowOpen = false) : te.broken = false := by
  simp only [TermEnc.broken, h, Bool.false_and]

/-- `start_row()`, the body, then `end_row()` — or, on an exception, `repeated_terms[:] = previous`. -/
def rowBracket (body : EncState → Res EncState (List Row)) (st0 : EncState) : Res EncState (List Row) :=
  match st0.te.beginRow with
  | .error e => (st0, .error e)
  | .ok te =>
    match body { st0 with te := te } with
    | (st', .error e) => ({ st' with rep := st0.rep }, .error e)
    | (st', .ok rows) => ({ st' with te := st'.te.endRow }, .ok rows)

theorem encodeTriple_bracket (exc : PyErr) (st : EncState) (terms : List Term) :
    encodeTriple exc st terms = rowBracket (encodeTripleBody exc · terms) st := rfl

theorem encodeQuad_bracket (exc : PyErr) (st : EncState) (terms : List Term) :
    encodeQuad exc st terms = rowBracket (encodeQuadBody exc · terms) st := rfl

variable {body : EncState → Res EncState (List Row)}

theorem rowBracket_broken {st : EncState} (h : st.te.broken = true) :
    rowBracket body st = (st, .error .conformance) := by
  simp only [rowBracket, TermEnc.beginRow_broken h]

theorem rowBracket_eq {st : EncState} (h : st.te.broken = false) :
    rowBracket body st =
      match body { st with te := st.te.startRow } with
      | (st', .error e) => ({ st' with rep := st.rep }, .error e)
      | (st', .ok rows) => ({ st' with te := st'.te.endRow }, .ok rows) := by
  simp only [rowBracket, TermEnc.beginRow_ok h]

theorem rowBracket_ok_inv {st st' : EncState} {rows : List Row} (h : rowBracket body st = (st', .ok rows)) :
    ∃ st1, body { st with te := st.te.startRow } = (st1, .ok rows) ∧ st' = { st1 with te := st1.te.endRow } := by
  cases hb : st.te.broken with
  | true => rw [rowBracket_broken hb] at h; simp at h
  | false =>
    rw [rowBracket_eq hb] at h
    rcases hbody : body { st with te := st.te.startRow } with ⟨st1, e | rows1⟩
    · rw [hbody] at h; simp at h
    · rw [hbody] at h
      simp only [Prod.mk.injEq, Except.ok.injEq] at h
      exact ⟨st1, by rw [h.2], h.1.symm⟩

/-- A failed row: either the encoder was broken (nothing changes), or the body failed and the repeated
    terms were put back. -/
theorem rowBracket_err_inv {st st' : EncState} {e : PyErr} (h : rowBracket body st = (st', .error e)) :
    (st.te.broken = true ∧ st' = st ∧ e = .conformance) ∨
    (st.te.broken = false ∧ ∃ st1, body { st with te := st.te.startRow } = (st1, .error e) ∧
      st' = { st1 with rep := st.rep }) := by
  cases hb : st.te.broken with
  | true =>
    rw [rowBracket_broken hb] at h
    simp only [Prod.mk.injEq, Except.error.injEq] at h
    exact Or.inl ⟨rfl, h.1.symm, h.2.symm⟩
  | false =>
    refine Or.inr ⟨rfl, ?_⟩
    rw [rowBracket_eq hb] at h
    rcases hbody : body { st with te := st.te.startRow } with ⟨st1, e1 | rows1⟩
    · rw [hbody] at h
      simp only [Prod.mk.injEq, Except.error.injEq] at h
      exact ⟨st1, by rw [h.2], h.1.symm⟩
    · rw [hbody] at h; simp at h

theorem rowBracket_err_rep {st st' : EncState} {e : PyErr} (h : rowBracket body st = (st', .error e)) :
    st'.rep = st.rep := by
  rcases rowBracket_err_inv h with ⟨-, h, -⟩ | ⟨-, st1, -, h⟩ <;> rw [h]

theorem encodeTriple_ok_inv {exc : PyErr} {st st' : EncState} {terms : List Term} {rows : List Row}
    (h : encodeTriple exc st terms = (st', .ok rows)) :
    ∃ st1, encodeTripleBody exc { st with te := st.te.startRow } terms = (st1, .ok rows) ∧
      st' = { st1 with te := st1.te.endRow } :=
  rowBracket_ok_inv (body := (encodeTripleBody exc · terms)) h

theorem encodeQuad_ok_inv {exc : PyErr} {st st' : EncState} {terms : List Term} {rows : List Row}
    (h : encodeQuad exc st terms = (st', .ok rows)) :
    ∃ st1, encodeQuadBody exc { st with te := st.te.startRow } terms = (st1, .ok rows) ∧
      st' = { st1 with te := st1.te.endRow } :=
  rowBracket_ok_inv (body := (encodeQuadBody exc · terms)) h

end Jelly
