import JellyProofs.Lemmas.LookupMirror
import JellyProofs.Lemmas.EncodeInv
import JellyModel.Decode
/-!
# IRIs through a raw term encoder into pyjelly's decoder (C05 at the term level)

Nobody calls `start_row` on the term encoder here, so its tables are raw (`pinned = none`) and face
pyjelly's reader tables directly: `iriIndices` followed by `decodeRows` and `decodeIri` is one step
of the joint run (`JointInv.use`) on the prefix table and one on the name table.
-/
namespace Jelly

/-- Raw term encoder and pyjelly decoder in step on the two IRI tables (the prefix table may be
    disabled). -/
structure IriJ (te : TermEnc) (d : DecState) : Prop where
  n : JointInv te.names d.names
  p : JointInv te.prefixes d.prefixes ∨ (te.prefixes.lookup.maxSize = 0 ∧ d.prefixes.lastReused = 0)

theorem decodeRows_nameEntry {q : Bool} {d : DecState} {oid : Option Nat} {k : String} {t : LookupDec}
    (h : match oid with | none => t = d.names | some id => d.names.assignEntry id k = .ok t)
    (rest : List Row) (acc : List Event) :
    d.decodeRows q (nameEntryRows oid k ++ rest) acc = ({ d with names := t } : DecState).decodeRows q rest acc := by
  cases oid with
  | none => subst h; rfl
  | some id =>
    simp only [nameEntryRows, List.cons_append, List.nil_append, DecState.decodeRows]
    unfold DecState.decodeRow
    simp only [h, Option.toList, List.append_nil]

theorem decodeRows_prefixEntry {q : Bool} {d : DecState} {oid : Option Nat} {k : String} {t : LookupDec}
    (h : match oid with | none => t = d.prefixes | some id => d.prefixes.assignEntry id k = .ok t)
    (rest : List Row) (acc : List Event) :
    d.decodeRows q (prefixEntryRows oid k ++ rest) acc
      = ({ d with prefixes := t } : DecState).decodeRows q rest acc := by
  cases oid with
  | none => subst h; rfl
  | some id =>
    simp only [prefixEntryRows, List.cons_append, List.nil_append, DecState.decodeRows]
    unfold DecState.decodeRow
    simp only [h, Option.toList, List.append_nil]

/-- One IRI: the encoder succeeds, pyjelly's decoder ingests the entry rows and resolves the emitted
    ids to the IRI, and the two sides stay in step. -/
theorem iri_step_joint {te : TermEnc} {d : DecState} (inv : IriJ te d) (iri : String) :
    ∃ te' rows p n d1 d2, te.iriIndices iri = (te', .ok (rows, p, n)) ∧
      d.decodeRows true rows [] = (d1, [], none) ∧ d1.decodeIri p n = .ok (d2, iri) ∧ IriJ te' d2 := by
  rcases inv.p with jp | ⟨hp0, hlr0⟩
  · have hup : te.prefixes.lookup.maxSize ≠ 0 := by have := jp.mirror.wf.pos; omega
    obtain ⟨pe1, poid, pd1, pe2, pid, pd2, hpe, hpa, hpt, hpd, jp2, _⟩ := jp.use .prefix (splitIri iri).1
    obtain ⟨ne1, noid, nd1, ne2, nid, nd2, hne, hna, hnt, hnd, jn2, _⟩ := inv.n.use .name (splitIri iri).2
    refine ⟨_, _, pid, nid, { d with prefixes := pd1, names := nd1 }, { d with prefixes := pd2, names := nd2 },
      iriIndices_eq_prefix hup hpe hne hpt hnt, ?_, ?_, ⟨jn2, Or.inl jp2⟩⟩
    · rw [decodeRows_prefixEntry hpa, ← List.append_nil (nameEntryRows _ _),
        decodeRows_nameEntry (d := { d with prefixes := pd1 }) hna]
      rfl
    · simp only [Rule.decTerm] at hpd hnd
      simp only [DecState.decodeIri, hnd, hpd, splitIri_append]
  · obtain ⟨ne1, noid, nd1, ne2, nid, nd2, hne, hna, hnt, hnd, jn2, _⟩ := inv.n.use .name iri
    refine ⟨_, _, 0, nid, { d with names := nd1 }, { d with names := nd2 },
      iriIndices_eq_noprefix hp0 hne hnt, ?_, ?_, ⟨jn2, Or.inr ⟨hp0, hlr0⟩⟩⟩
    · rw [← List.append_nil (nameEntryRows _ _), decodeRows_nameEntry hna]
      rfl
    · simp only [Rule.decTerm] at hnd
      simp [DecState.decodeIri, hnd, LookupDec.prefixTerm, hlr0]

end Jelly
