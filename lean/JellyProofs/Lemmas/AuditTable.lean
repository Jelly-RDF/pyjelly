import JellyProofs.Lemmas.TableSim
/-!
# Single-table theory for the compression audit (C19)

The audit asks whether an entry row re-sends a string the reader still has, so the one-sided `EMirror` is not
enough: `XMirror` adds the converse (every filled reader slot holds a key resident in the writer table under that
index). An entry row keeps the exact mirror and is not counted; "entry, then reference" emits the zero forms the
audit looks for.
-/
namespace Jelly

/-- Exact mirror: the filled reader slots are exactly the resident `(key, index)` pairs of the writer. -/
structure XMirror (e : LookupEnc) (t : LookupDec) : Prop where
  em : EMirror e t
  conv : ∀ j k, t.data[j]? = some (some k) → (k, j + 1) ∈ e.lookup.data

theorem XMirror.new (n : Nat) : XMirror (LookupEnc.new n) (Spec.mkTable n) :=
  ⟨EMirror.new n, fun j k h => by
    simp only [Spec.mkTable, List.getElem?_replicate] at h
    split at h <;> simp at h⟩

theorem XMirror.of_pins {e : LookupEnc} {t : LookupDec} (m : XMirror e t) (ps : Option (List String)) (r : Nat) :
    XMirror { e with lookup := { e.lookup with pinned := ps } } { t with lastReused := r } :=
  ⟨m.em.of_pins ps r, m.conv⟩

theorem XMirror.not_resident {e : LookupEnc} {t : LookupDec} (m : XMirror e t) {k : String}
    (hk : k ∉ e.lookup.data.map (·.1)) : Spec.resident t k = false := by
  cases hr : Spec.resident t k with
  | false => rfl
  | true =>
    exfalso
    simp only [Spec.resident, List.any_eq_true, beq_iff_eq] at hr
    obtain ⟨x, hx, rfl⟩ := hr
    obtain ⟨j, hj, hget⟩ := List.mem_iff_getElem.mp hx
    have : t.data[j]? = some (some k) := by rw [List.getElem?_eq_getElem hj, hget]
    exact hk (List.mem_map.mpr ⟨_, m.conv j k this, rfl⟩)

theorem xmirror_after_set {e : LookupEnc} {t : LookupDec} {k : String} {i : Nat} {l' : Lookup}
    (wf : e.lookup.WF) (m : XMirror e t) (hm : l'.maxSize = e.lookup.maxSize)
    (hi : 1 ≤ i) (hle : i ≤ e.lookup.maxSize)
    (hold : ∀ k' i', (k', i') ∈ l'.data ↔ ((k', i') = (k, i) ∨ ((k', i') ∈ e.lookup.data ∧ i' ≠ i))) :
    XMirror { e with lookup := l', lastAssigned := i }
      { t with data := t.data.set (i - 1) (some k), lastAssigned := i } := by
  refine ⟨mirror_after_set wf m.em hm hi hle (fun k' i' h => (hold k' i').mp h), ?_⟩
  intro j k' hj
  by_cases hji : j = i - 1
  · subst hji
    have hlt : i - 1 < t.data.length := by have := m.em.len; omega
    simp only [List.getElem?_set_self hlt, Option.some.injEq] at hj
    subst hj
    have : i - 1 + 1 = i := by omega
    rw [this]
    exact (hold k i).mpr (Or.inl rfl)
  · have hne : i - 1 ≠ j := fun h => hji h.symm
    simp only [List.getElem?_set_ne hne] at hj
    exact (hold k' (j + 1)).mpr (Or.inr ⟨m.conv j k' hj, by omega⟩)

theorem entryAudit_eq {t : LookupDec} {id : Nat} {k : String} (hr : Spec.resident t k = false)
    (hz : id = 0 ∨ id ≠ t.lastAssigned + 1) (a : Spec.Audit) : Spec.entryAudit t id k a = a := by
  unfold Spec.entryAudit
  simp only [hr, Bool.false_eq_true, if_false]
  have : (id != 0 && id == t.lastAssigned + 1) = false := by
    rcases hz with h | h
    · simp [h]
    · have : (id == t.lastAssigned + 1) = false := by simpa using h
      simp [this]
  simp [this]

/-- What the audit does with the (optional) entry row of one key. -/
def entryRowAudit (t : LookupDec) (oid : Option Nat) (k : String) (a : Spec.Audit) : Spec.Audit :=
  match oid with
  | none => a
  | some id => Spec.entryAudit t id k a

theorem EntryCase.xmirror {e e' : LookupEnc} {k oid} {t : LookupDec} (wf : e.lookup.WF)
    (m : XMirror e t) (c : EntryCase e k e' oid) :
    ∃ t', ingestEntry t oid k = .ok t' ∧ XMirror e' t' ∧ t'.lastReused = t.lastReused ∧
      ∀ a, entryRowAudit t oid k a = a := by
  obtain ⟨hmax, ⟨rfl, hla, hmem⟩ | ⟨i, rfl, hla, h1, h2, hk, _, hold⟩⟩ := c.spec wf
  · exact ⟨t, rfl, ⟨⟨by rw [hmax]; exact m.em.size, by rw [hmax]; exact m.em.len, by rw [hla]; exact m.em.la,
      fun k' i' h => m.em.res k' i' ((hmem _).mp h)⟩, fun j k' h => (hmem _).mpr (m.conv j k' h)⟩, rfl, fun _ => rfl⟩
  · refine ⟨_, assign_eq (i := i) h1 (by rw [m.em.size]; exact h2) (by rw [m.em.la]; exact entryId_short _ _ h1),
      ?_, rfl, fun a => ?_⟩
    · have := xmirror_after_set (l' := e'.lookup) (k := k) wf m hmax h1 h2 hold
      subst hla
      exact ⟨⟨this.em.size, this.em.len, this.em.la, this.em.res⟩, this.conv⟩
    · apply entryAudit_eq (m.not_resident hk)
      rw [m.em.la]
      by_cases hc : i = e.lastAssigned + 1
      · left; simp [hc]
      · right
        have hb : (i == e.lastAssigned + 1) = false := by simpa using hc
        simp only [hb, Bool.false_eq_true, if_false]; exact hc

theorem TermStep.xmirror {e e' : LookupEnc} {k} {t : LookupDec} (s : TermStep e e' k) (m : XMirror e t) :
    XMirror e' t :=
  ⟨s.mirror m.em, fun j k' h => (s.mem _).mpr (m.conv j k' h)⟩

/-- What the audit needs from "entry, then reference" on one table. -/
structure UsedA (e e2 : LookupEnc) (k : String) (oid : Option Nat) : Prop where
  wf : e2.lookup.WF
  max : e2.lookup.maxSize = e.lookup.maxSize
  mirror : ∀ t, XMirror e t →
    ∃ t', ingestEntry t oid k = .ok t' ∧ XMirror e2 t' ∧ t'.lastReused = t.lastReused ∧
      ∀ a, entryRowAudit t oid k a = a

theorem UsedA.of_case {e e1 e2 : LookupEnc} {k oid} (wf : e.lookup.WF) (c : EntryCase e k e1 oid)
    (s : TermStep e1 e2 k) : UsedA e e2 k oid :=
  ⟨s.wf, s.max.trans (c.spec wf).1, fun t m => by
     obtain ⟨t', h1, h2, h3, h4⟩ := c.xmirror wf m
     exact ⟨t', h1, s.xmirror h2, h3, h4⟩⟩

/-- Name table: the id is 0 exactly when the zero form applies. -/
theorem useNameA {e e1 e2 : LookupEnc} {k : String} {oid : Option Nat} {id : Nat} (wf : e.lookup.WF)
    (hpos : 0 < e.lookup.maxSize) (h1 : e.entryIndex k = .ok (e1, oid)) (h2 : e1.nameTermIndex k = .ok (e2, id)) :
    UsedA e e2 k oid ∧
      ((id = 0 ∧ e2.lastReused = e.lastReused + 1) ∨
       (id ≠ 0 ∧ id ≠ e.lastReused + 1 ∧ e2.lastReused = id)) := by
  have c := entryIndex_ok_case wf hpos h1
  obtain ⟨wf1, _, hlr, i, hi⟩ := c.basic wf hpos
  rw [nameTermIndex_exact wf1 hi] at h2
  cases h2
  refine ⟨UsedA.of_case wf c (TermStep.bump wf1 hi i), ?_⟩
  have hi1 := (wf1.idx_range hi).1
  rw [hlr]
  split <;> simp_all <;> omega

theorem usePrefixA {e e1 e2 : LookupEnc} {k : String} {oid : Option Nat} {id : Nat} (wf : e.lookup.WF)
    (hpos : 0 < e.lookup.maxSize) (h1 : e.entryIndex k = .ok (e1, oid)) (h2 : e1.prefixTermIndex k = .ok (e2, id)) :
    UsedA e e2 k oid ∧
      ((id = 0 ∧ e2.lastReused = e.lastReused) ∨
       (id ≠ 0 ∧ id ≠ e.lastReused ∧ e2.lastReused = id)) := by
  have c := entryIndex_ok_case wf hpos h1
  obtain ⟨wf1, hmax, hlr, i, hi⟩ := c.basic wf hpos
  obtain ⟨e2', id', hti, s, hz, _⟩ := prefixTermIndex_step wf1 (by rw [hmax]; exact hpos) hi
  rw [hti] at h2
  cases h2
  exact ⟨UsedA.of_case wf c s, hlr ▸ hz⟩

theorem useDatatypeA {e e1 e2 : LookupEnc} {k : String} {oid : Option Nat} {id : Nat} (wf : e.lookup.WF)
    (hpos : 0 < e.lookup.maxSize) (h1 : e.entryIndex k = .ok (e1, oid)) (h2 : e1.datatypeTermIndex k = .ok (e2, id)) :
    UsedA e e2 k oid := by
  have c := entryIndex_ok_case wf hpos h1
  obtain ⟨wf1, hmax, _, i, hi⟩ := c.basic wf hpos
  rw [datatypeTermIndex_exact wf1 (by rw [hmax]; exact hpos) hi] at h2
  cases h2
  exact UsedA.of_case wf c (TermStep.bump wf1 hi _)

end Jelly
