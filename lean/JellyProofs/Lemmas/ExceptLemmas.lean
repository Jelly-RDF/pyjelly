/-!
# `Except` and `>>=`

What a chain of `>>=` in `Except` does, for proofs that take a run apart step by step. No imports: every layer of the
development can use it.
-/
namespace Jelly

theorem Except.ok_bind {ε α β : Type} (a : α) (f : α → Except ε β) : (Except.ok a >>= f) = f a := rfl

theorem Except.bind_eq_ok {ε α β : Type} {r : Except ε α} {k : α → Except ε β} {b : β} :
    (r >>= k) = .ok b ↔ ∃ a, r = .ok a ∧ k a = .ok b := by
  cases r with
  | error e => exact ⟨fun h => (by cases h), fun ⟨_, h, _⟩ => (by cases h)⟩
  | ok a => exact ⟨fun h => ⟨a, rfl, h⟩, fun ⟨_, h, hk⟩ => (by cases h; exact hk)⟩

theorem Except.bind_raises {ε α β : Type} {r : Except ε α} {k : α → Except ε β}
    (h : ∀ a, r = .ok a → ∃ e, k a = .error e) : ∃ e, (r >>= k) = .error e := by
  cases r with
  | error e => exact ⟨e, rfl⟩
  | ok a => exact h a rfl

theorem Except.ite_error_eq_ok {ε α : Type} {c : Prop} [Decidable c] {e : ε} {x : Except ε α} {a : α} :
    (if c then .error e else x) = .ok a ↔ ¬ c ∧ x = .ok a := by
  split <;> simp [*]

end Jelly
