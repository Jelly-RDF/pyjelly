import JellyModel.SerGeneric
/-!
# Flows, streams and runs of the generic serializer

What the command-list layer (`Exec.lean`) is built from: every `Flow.*frame*` function is an optional flush
(`Flow.IsCut`); what no stream operation changes (`Stream.Keeps`); `Stream.emit`, the common tail of
`Stream.triple` and `Stream.quad`; the shape of `streamFrames` (`framesWith`, `classLoop`); what `Stream.new`
returns. The loops themselves go through `Run.exec`. Two notions are only defined here and get their content from
that layer: `PSim` (two streams that differ at most in their flow; `Run.exec_psim` in `Exec.lean`: every execution keeps
them so, which is C06 (b)) and `GoodStep` (what the trace lemmas of `SerTrace.lean` ask of a statement step;
`stepOf_good` in `SerRows.lean`).
-/
namespace Jelly

/-- `x` is the result of an optional flush of the flow `f`: either nothing happened, or all the
    (non-empty) rows were moved into one frame. -/
def Flow.IsCut (f : Flow) (x : Flow × Option Frame) : Prop :=
  x = (f, none) ∨ (f.rows ≠ [] ∧ x = ({ f with rows := [] }, some { rows := f.rows }))

theorem Flow.IsCut.none (f : Flow) : f.IsCut (f, none) := Or.inl rfl

theorem Flow.toStreamFrame_isCut (f : Flow) : f.IsCut f.toStreamFrame := by
  unfold Flow.toStreamFrame Flow.IsCut
  cases h : f.rows <;> simp

theorem Flow.frameFromBounds_isCut (f : Flow) : f.IsCut f.frameFromBounds := by
  unfold Flow.frameFromBounds
  split
  · exact f.toStreamFrame_isCut
  · exact .none f

namespace Flow.IsCut
variable {f : Flow} {x : Flow × Option Frame}

theorem logicalType (h : f.IsCut x) : x.1.logicalType = f.logicalType := by
  rcases h with rfl | ⟨_, rfl⟩ <;> rfl

theorem rows (h : f.IsCut x) : x.2.toList.flatMap (·.rows) ++ x.1.rows = f.rows := by
  rcases h with rfl | ⟨_, rfl⟩ <;> simp

theorem ne_nil (h : f.IsCut x) : ∀ fr ∈ x.2.toList, fr.rows ≠ [] := by
  rcases h with rfl | ⟨hne, rfl⟩
  · simp
  · simpa using hne

theorem noMeta (h : f.IsCut x) : ∀ fr ∈ x.2.toList, fr.metadata = [] := by
  rcases h with rfl | ⟨_, rfl⟩ <;> simp

theorem length_le (h : f.IsCut x) : x.1.rows.length ≤ f.rows.length := by
  rcases h with rfl | ⟨_, rfl⟩ <;> simp

theorem length_toList_le (h : f.IsCut x) : x.2.toList.length ≤ 1 := by
  rcases h with rfl | ⟨_, rfl⟩ <;> simp

theorem rows_of_some (h : f.IsCut x) {fr : Frame} (hx : x.2 = some fr) : x.1.rows = [] ∧ fr.rows = f.rows := by
  rcases h with rfl | ⟨_, rfl⟩
  · simp at hx
  · simp at hx; subst hx; simp

end Flow.IsCut

theorem Flow.toStreamFrame_rows (f : Flow) : f.toStreamFrame.1.rows = [] := by
  unfold Flow.toStreamFrame
  cases h : f.rows <;> simp [h]

theorem Flow.frameFromBounds_pending (f : Flow) (hb : f.kind.isBounded = true) (hfs : 0 < f.frameSize) :
    f.frameFromBounds.1.rows.length < f.frameSize := by
  unfold Flow.frameFromBounds
  split
  · rw [f.toStreamFrame_rows]; exact hfs
  · rename_i h
    simp [hb] at h
    exact h

/-- What no serializer operation ever changes. -/
structure Stream.Keeps (s s' : Stream) : Prop where
  cls : s'.cls = s.cls
  opts : s'.opts = s.opts
  logicalType : s'.logicalType = s.logicalType
  kind : s'.flow.kind = s.flow.kind
  frameSize : s'.flow.frameSize = s.flow.frameSize

theorem Stream.Keeps.refl (s : Stream) : s.Keeps s := ⟨rfl, rfl, rfl, rfl, rfl⟩

theorem Stream.Keeps.trans {a b c : Stream} (h₁ : a.Keeps b) (h₂ : b.Keeps c) : a.Keeps c :=
  ⟨h₂.cls.trans h₁.cls, h₂.opts.trans h₁.opts, h₂.logicalType.trans h₁.logicalType,
   h₂.kind.trans h₁.kind, h₂.frameSize.trans h₁.frameSize⟩

def FlowSim (s₁ s₂ : Stream) : Prop :=
  s₁.cls = s₂.cls ∧ s₁.opts = s₂.opts ∧ s₁.enc = s₂.enc ∧ s₁.enrolled = s₂.enrolled ∧
    s₁.logicalType = s₂.logicalType

theorem FlowSim.refl (s : Stream) : FlowSim s s := ⟨rfl, rfl, rfl, rfl, rfl⟩

/-- What `Stream.Keeps` keeps is three of the five components; the encoder and the enrolled flag are compared apart. -/
theorem FlowSim.of_keeps {a b a' b' : Stream} (h : FlowSim a b) (ka : a.Keeps a') (kb : b.Keeps b')
    (he : a'.enc = b'.enc) (hn : a'.enrolled = b'.enrolled) : FlowSim a' b' :=
  ⟨ka.cls.trans (h.1.trans kb.cls.symm), ka.opts.trans (h.2.1.trans kb.opts.symm), he, hn,
    ka.logicalType.trans (h.2.2.2.2.trans kb.logicalType.symm)⟩

/-- `A₁`, `A₂`: the rows already handed out in frames. The two streams differ at most in their flow and, with
    those rows, have seen the same row sequence. -/
def PSim (A₁ : List Row) (s₁ : Stream) (A₂ : List Row) (s₂ : Stream) : Prop :=
  FlowSim s₁ s₂ ∧ A₁ ++ s₁.flow.rows = A₂ ++ s₂.flow.rows

theorem Stream.pushRows_keeps (s : Stream) (rows : List Row) : s.Keeps (s.pushRows rows) :=
  ⟨rfl, rfl, rfl, rfl, rfl⟩

theorem Stream.withEnc_keeps (s : Stream) (e : EncState) : s.Keeps { s with enc := e } :=
  ⟨rfl, rfl, rfl, rfl, rfl⟩

theorem Stream.cut_keeps (s : Stream) {x : Flow × Option Frame} (h : s.flow.IsCut x) :
    s.Keeps { s with flow := x.1 } := by
  rcases h with rfl | ⟨_, rfl⟩ <;> exact ⟨rfl, rfl, rfl, rfl, rfl⟩

def resErr {α : Type} : Except PyErr α → Option PyErr
  | .ok _ => none
  | .error e => some e

def resFrames : Except PyErr (Option Frame) → List Frame
  | .ok f => f.toList
  | .error _ => []

@[simp] theorem resErr_ok {α : Type} (a : α) : resErr (.ok a : Except PyErr α) = none := rfl
@[simp] theorem resErr_error {α : Type} (e : PyErr) : resErr (.error e : Except PyErr α) = some e := rfl
@[simp] theorem resFrames_ok (f : Option Frame) : resFrames (.ok f) = f.toList := rfl
@[simp] theorem resFrames_error (e : PyErr) : resFrames (.error e) = [] := rfl

/-- Append rows, then `frame_from_bounds`: the tail of `triple`, `quad`, `graph`. -/
def Stream.emit (s : Stream) (rows : List Row) : Stream × Option Frame :=
  ({ s.pushRows rows with flow := (s.pushRows rows).flow.frameFromBounds.1 },
   (s.pushRows rows).flow.frameFromBounds.2)

theorem Stream.emit_enc (s : Stream) (rows : List Row) : (s.emit rows).1.enc = s.enc := rfl

theorem Stream.triple_eq (exc : PyErr) (s : Stream) (t : List Term) :
    s.triple exc t =
      match encodeTriple exc s.enc t with
      | (enc', .error e) => ({ s with enc := enc' }, .error e)
      | (enc', .ok rows) => ((({ s with enc := enc' } : Stream).emit rows).1,
                             .ok (({ s with enc := enc' } : Stream).emit rows).2) := by
  unfold Stream.triple
  rcases encodeTriple exc s.enc t with ⟨enc', _ | _⟩ <;> rfl

theorem Stream.quad_eq (exc : PyErr) (s : Stream) (t : List Term) :
    s.quad exc t =
      match encodeQuad exc s.enc t with
      | (enc', .error e) => ({ s with enc := enc' }, .error e)
      | (enc', .ok rows) => ((({ s with enc := enc' } : Stream).emit rows).1,
                             .ok (({ s with enc := enc' } : Stream).emit rows).2) := by
  unfold Stream.quad
  rcases encodeQuad exc s.enc t with ⟨enc', _ | _⟩ <;> rfl

/-- A statement step as the trace lemmas of `SerTrace.lean` take it (they read `keeps` and `pending`; `keeps` is
    also read by `stream_triple_kind` in `TranslatedStream.lean`). -/
structure GoodStep (step : Stream → List Term → Res Stream (Option Frame)) : Prop where
  keeps : ∀ (s : Stream) (t : List Term), s.Keeps (step s t).1
  ne_nil : ∀ (s : Stream) (t : List Term), ∀ f ∈ resFrames (step s t).2, f.rows ≠ []
  psim : ∀ {A₁ : List Row} {s₁ : Stream} {A₂ : List Row} {s₂ : Stream} (t : List Term),
    PSim A₁ s₁ A₂ s₂ →
    PSim (A₁ ++ (resFrames (step s₁ t).2).flatMap (·.rows)) (step s₁ t).1
         (A₂ ++ (resFrames (step s₂ t).2).flatMap (·.rows)) (step s₂ t).1 ∧
    resErr (step s₁ t).2 = resErr (step s₂ t).2
  pending : ∀ (s : Stream) (t : List Term), s.flow.kind.isBounded = true → 0 < s.flow.frameSize →
    resErr (step s t).2 = none → (step s t).1.flow.rows.length < s.flow.frameSize

/-- All rows of a run: those handed out in frames, in order, followed by those still in the flow. -/
def rowsOf (frames : List Frame) (s : Stream) : List Row := frames.flatMap (·.rows) ++ s.flow.rows

def Run.allRows' (r : Run) : List Row := r.frames.flatMap (·.rows) ++ r.stream.flow.rows

def Run.NoEmpty (r : Run) : Prop := ∀ f ∈ r.frames, f.rows ≠ []

theorem Run.NoEmpty.init (s : Stream) (e : Option PyErr) : Run.NoEmpty { stream := s, err := e } := by
  intro f hf; simp at hf

@[simp] theorem Run.push_stream (r : Run) (s : Stream) (f : Option Frame) : (r.push s f).stream = s := rfl
@[simp] theorem Run.push_frames (r : Run) (s : Stream) (f : Option Frame) :
    (r.push s f).frames = r.frames ++ f.toList := rfl
@[simp] theorem Run.push_err (r : Run) (s : Stream) (f : Option Frame) : (r.push s f).err = r.err := rfl

@[simp] theorem stmtLoop_nil (step : Stream → List Term → Res Stream (Option Frame)) (r : Run) :
    stmtLoop step r [] = r := rfl

theorem stmtLoop_cons (step : Stream → List Term → Res Stream (Option Frame)) (r : Run)
    (t : List Term) (ts : List (List Term)) :
    stmtLoop step r (t :: ts) =
      match (step r.stream t).2 with
      | .error e => { r with stream := (step r.stream t).1, err := some e }
      | .ok fr => stmtLoop step (r.push (step r.stream t).1 fr) ts := by
  rw [stmtLoop]
  rcases step r.stream t with ⟨s', e | fr⟩ <;> rfl

theorem Stream.enroll_keeps (s : Stream) : s.Keeps s.enroll := by
  unfold Stream.enroll
  split
  · exact .refl s
  · exact ⟨rfl, rfl, rfl, rfl, rfl⟩

theorem Stream.enroll_enc (s : Stream) : s.enroll.enc = s.enc := by
  unfold Stream.enroll
  split <;> rfl

theorem Stream.enroll_rows (s : Stream) :
    s.enroll.flow.rows = s.flow.rows ++ if s.enrolled then [] else [s.optionsRow] := by
  unfold Stream.enroll
  split <;> simp [Stream.pushRows]

theorem Stream.enroll_rows_all {R : Row → Prop} (s : Stream) (hs : ∀ x ∈ s.flow.rows, R x) (ho : R s.optionsRow) :
    ∀ x ∈ s.enroll.flow.rows, R x := by
  intro x hx
  rw [s.enroll_rows] at hx
  rcases List.mem_append.1 hx with hx | hx
  · exact hs x hx
  · split at hx
    · cases hx
    · exact List.mem_singleton.1 hx ▸ ho

theorem Stream.enroll_enrolled (s : Stream) : s.enroll.enrolled = true := by
  unfold Stream.enroll
  split
  · assumption
  · rfl

theorem PSim.enroll {A₁ A₂ s₁ s₂} (h : PSim A₁ s₁ A₂ s₂) : PSim A₁ s₁.enroll A₂ s₂.enroll := by
  obtain ⟨hf, hr⟩ := h
  have hrow : s₁.optionsRow = s₂.optionsRow := by simp only [Stream.optionsRow, hf.1, hf.2.1, hf.2.2.2.2]
  refine ⟨hf.of_keeps s₁.enroll_keeps s₂.enroll_keeps (s₁.enroll_enc.trans (hf.2.2.1.trans s₂.enroll_enc.symm))
    (s₁.enroll_enrolled.trans s₂.enroll_enrolled.symm), ?_⟩
  rw [Stream.enroll_rows, Stream.enroll_rows, hf.2.2.2.1, hrow, ← List.append_assoc, hr, List.append_assoc]

@[simp] theorem prologue_gen (s : Stream) (l : List (List Term)) : prologue s (.gen l) = (s.enroll, .ok ()) := rfl

def Run.pushCut (r : Run) (x : Flow × Option Frame) : Run := r.push { r.stream with flow := x.1 } x.2

def framesWith (loop : Run → List (List Term) → Run) (fromDataset : Bool) (s : Stream) (data : SerData) : Run :=
  match prologue s data with
  | (s1, .error e) => { stream := s1, err := some e }
  | (s1, .ok ()) =>
    let r := loop { stream := s1 } data.stmts
    if r.err.isSome then r else epilogue r fromDataset

def classLoop : StreamClass → (Run → List (List Term) → Run)
  | .triple => stmtLoop (Stream.triple .runtimeError)
  | .quad => stmtLoop (Stream.quad .runtimeError)
  | .graph => fun r => graphsLoop r none

def classFromDataset : StreamClass → Bool
  | .triple => false
  | _ => true

theorem streamFrames_eq (s : Stream) (d : SerData) :
    streamFrames s d = framesWith (classLoop s.cls) (classFromDataset s.cls) s d := by
  unfold streamFrames
  cases s.cls <;> rfl

theorem framesWith_eq (loop : Run → List (List Term) → Run) (b : Bool) (s : Stream) (d : SerData) :
    framesWith loop b s d =
      match (prologue s d).2 with
      | .error e => { stream := (prologue s d).1, err := some e }
      | .ok _ =>
        if (loop { stream := (prologue s d).1 } d.stmts).err.isSome
        then loop { stream := (prologue s d).1 } d.stmts
        else epilogue (loop { stream := (prologue s d).1 } d.stmts) b := by
  unfold framesWith
  rcases prologue s d with ⟨s1, e | u⟩ <;> rfl

theorem inferFlow_rows {cls : StreamClass} {o : SerOptions} {f : Flow} (h : inferFlow cls o = .ok f) :
    f.rows = [] := by
  unfold inferFlow at h
  split at h
  · split at h
    · simp at h
    · split at h <;> (injection h with h; subst h; rfl)
  · injection h with h; subst h; rfl

theorem Preset.valid_iff (p : Preset) : p.valid = true ↔ 8 ≤ p.maxNames := by
  simp [Preset.valid, MIN_NAME_LOOKUP_SIZE]

theorem StreamClass.physical_cases (cls : StreamClass) :
    cls.physical = 1 ∨ cls.physical = 2 ∨ cls.physical = 3 := by
  cases cls <;> simp [StreamClass.physical]

/-- What `Stream.new cls o = .ok s` guarantees of `s` (the constructor's checks and the fresh state). -/
structure Stream.Fresh (cls : StreamClass) (o : SerOptions) (s : Stream) : Prop where
  valid : o.preset.valid = true
  cls_eq : s.cls = cls
  opts : s.opts = o
  enc : s.enc = { te := TermEnc.new o.preset.maxNames o.preset.maxPrefixes o.preset.maxDatatypes }
  rows : s.flow.rows = []
  enrolled : s.enrolled = false
  compat : typesCompatible cls.physical s.logicalType = true

theorem Stream.new_spec {cls : StreamClass} {o : SerOptions} {s : Stream} (h : Stream.new cls o = .ok s) :
    Stream.Fresh cls o s := by
  revert h
  fun_cases Stream.new cls o with
  | case4 hv flowE flow hflow htc =>  -- every check passed
    intro h
    cases h
    refine ⟨by simpa using hv, rfl, rfl, rfl, ?_, rfl, by simpa using htc⟩
    show flow.rows = []
    cases hof : o.flow <;> simp only [flowE, hof] at hflow
    · exact inferFlow_rows hflow
    · cases hflow; rfl
  | _ => exact fun h => nomatch h  -- a check failed

/-- `Stream.new` never looks at the namespace-declaration flag. -/
theorem Stream.new_nsflag {cls : StreamClass} {o : SerOptions} {s : Stream} (b : Bool)
    (h : Stream.new cls o = .ok s) :
    Stream.new cls { o with params := { o.params with namespaceDeclarations := b } }
      = .ok { s with opts := { o with params := { o.params with namespaceDeclarations := b } } } := by
  have hi : inferFlow cls { o with params := { o.params with namespaceDeclarations := b } }
      = inferFlow cls o := rfl
  revert h
  fun_cases Stream.new cls o with
  | case4 hv flowE flow hflow htc =>  -- every check passed: the same three checks pass again
    intro h
    cases h
    unfold Stream.new
    simp only [hi]
    simp only [flowE] at hflow
    rw [if_neg hv, hflow]
    exact if_neg htc
  | _ => exact fun h => nomatch h  -- a check failed

end Jelly
