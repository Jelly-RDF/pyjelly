import JellyProofs.Lemmas.DecodeEqs
/-!
# What decoding leaves alone, and what it does not look at

* `DecState.Kept` : decoding a term changes neither the control fields (`Ctl`: options, adapter, open graph) nor
  the size of a table (`SameSizes`); one walk through `decodeIri` … `decodeSpo` proves both, and a row keeps the
  options, the adapter and the sizes (`decodeRow_kept`).
* `mapOpts` : the options are read by nothing but the options row.
* `noQuoted` : `quoted` is consulted for quoted triples only.
-/
namespace Jelly

theorem LookupDec.assignEntry_length (d t : LookupDec) (i : Nat) (v : String)
    (h : d.assignEntry i v = .ok t) : t.data.length = d.data.length := by
  revert h
  fun_cases LookupDec.assignEntry d i v with
  | case1 j hj => intro h; cases h; exact List.length_set  -- slot in range: set
  | case2 => intro h; cases h  -- out of range: IndexError

theorem LookupDec.at_data (d : LookupDec) (i : Nat) : (d.at i).1.data = d.data := by
  fun_cases LookupDec.at d i <;> rfl

theorem LookupDec.prefixTerm_data (d : LookupDec) (i : Nat) : (d.prefixTerm i).1.data = d.data := by
  fun_cases LookupDec.prefixTerm d i
  · rfl  -- id 0, no previous prefix: ""
  · exact LookupDec.at_data _ _  -- looked up

theorem LookupDec.nameTerm_data (d : LookupDec) (i : Nat) : (d.nameTerm i).1.data = d.data := by
  fun_cases LookupDec.nameTerm d i
  · rfl  -- index 0: refused
  · exact LookupDec.at_data _ _  -- looked up

theorem LookupDec.datatypeTerm_data (d : LookupDec) (i : Nat) : (d.datatypeTerm i).1.data = d.data := by
  fun_cases LookupDec.datatypeTerm d i
  · rfl  -- id 0: refused
  · exact LookupDec.at_data _ _  -- looked up

def DecState.Ctl (d d' : DecState) : Prop :=
  d'.graphId = d.graphId ∧ d'.adapter = d.adapter ∧ d'.opts = d.opts

theorem DecState.Ctl.refl (d : DecState) : d.Ctl d := ⟨rfl, rfl, rfl⟩

theorem DecState.Ctl.trans {a b c : DecState} (h1 : a.Ctl b) (h2 : b.Ctl c) : a.Ctl c :=
  ⟨h2.1.trans h1.1, h2.2.1.trans h1.2.1, h2.2.2.trans h1.2.2⟩

def DecState.SameSizes (d d' : DecState) : Prop :=
  d'.names.data.length = d.names.data.length ∧ d'.prefixes.data.length = d.prefixes.data.length ∧
  d'.datatypes.data.length = d.datatypes.data.length

theorem DecState.SameSizes.refl (d : DecState) : d.SameSizes d := ⟨rfl, rfl, rfl⟩

theorem DecState.SameSizes.trans {a b c : DecState} (h1 : a.SameSizes b) (h2 : b.SameSizes c) :
    a.SameSizes c :=
  ⟨h2.1.trans h1.1, h2.2.1.trans h1.2.1, h2.2.2.trans h1.2.2⟩

/-- Control fields and table sizes of `d'` are those of `d`. An update of `rep` in between is invisible to it. -/
def DecState.Kept (d d' : DecState) : Prop := d.Ctl d' ∧ d.SameSizes d'

theorem DecState.Kept.refl (d : DecState) : d.Kept d := ⟨.refl d, .refl d⟩

theorem DecState.Kept.trans {a b c : DecState} (h1 : a.Kept b) (h2 : b.Kept c) : a.Kept c :=
  ⟨h1.1.trans h2.1, h1.2.trans h2.2⟩

/-- A successful `decode_iri` replaces the name table and the prefix table by what the two look-ups return, and nothing
    else. -/
theorem DecState.decodeIri_inv {d d' : DecState} {p n : Nat} {s : String} (h : d.decodeIri p n = .ok (d', s)) :
    d' = { d with names := (d.names.nameTerm n).1, prefixes := (d.prefixes.prefixTerm p).1 } := by
  revert h
  fun_cases DecState.decodeIri d p n with
  | case3 names' name hn prefixes' pfx hp =>  -- both look-ups succeed
    intro h
    cases h
    rw [hn, hp]
  | _ => intro h; cases h  -- a look-up raised

theorem DecState.decodeIri_kept {d d' : DecState} {p n : Nat} {s : String}
    (h : d.decodeIri p n = .ok (d', s)) : d.Kept d' := by
  rw [decodeIri_inv h]
  exact ⟨⟨rfl, rfl, rfl⟩, congrArg _ (LookupDec.nameTerm_data d.names n),
    congrArg _ (LookupDec.prefixTerm_data d.prefixes p), rfl⟩

theorem DecState.decodeLiteral_kept {d d' : DecState} {lex : String} {k : WLitKind} {x : Term}
    (h : d.decodeLiteral lex k = .ok (d', x)) : d.Kept d' := by
  revert h
  fun_cases DecState.decodeLiteral d lex k with
  | case5 id dts' dt hd =>  -- datatype resolved
    intro h
    cases h
    exact ⟨⟨rfl, rfl, rfl⟩, rfl, rfl,
      congrArg List.length ((congrArg (·.1.data) hd).symm.trans (LookupDec.datatypeTerm_data _ id))⟩
  | case4 => intro h; cases h  -- datatype look-up raised
  | _ => intro h; cases h; exact .refl _  -- plain or language-tagged: state unchanged

mutual
  theorem DecState.decodeTerm_kept {q : Bool} : ∀ (t : WTerm) {d d' : DecState} {x : Term},
      d.decodeTerm q t = .ok (d', x) → d.Kept d'
    | .iri p n, d, d', x, h => by
      rw [DecState.decodeTerm_iri] at h
      obtain ⟨⟨d1, s⟩, h1, h⟩ := Except.bind_eq_ok.1 h
      cases h
      exact decodeIri_kept h1
    | .bnode b, d, d', x, h => by
      rw [DecState.decodeTerm] at h
      cases h
      exact .refl _
    | .literal lex k, d, d', x, h => by
      rw [DecState.decodeTerm] at h
      exact decodeLiteral_kept h
    | .defaultGraph, d, d', x, h => by
      rw [DecState.decodeTerm] at h
      cases h
      exact .refl _
    | .triple s p o, d, d', x, h => by
      rw [DecState.decodeTerm_triple] at h
      obtain ⟨⟨d1, ts⟩, h1, h⟩ := Except.bind_eq_ok.1 h
      obtain ⟨⟨d2, tp⟩, h2, h⟩ := Except.bind_eq_ok.1 h
      obtain ⟨⟨d3, to⟩, h3, h⟩ := Except.bind_eq_ok.1 h
      have e : d3 = d' := by
        cases q <;> cases h
        rfl
      exact e ▸ ((decodeQuotedSlot_kept s h1).trans (decodeQuotedSlot_kept p h2)).trans (decodeQuotedSlot_kept o h3)
  theorem DecState.decodeQuotedSlot_kept {q : Bool} : ∀ (w : Option WTerm) {d d' : DecState} {x : Term},
      DecState.decodeQuotedSlot q d w = .ok (d', x) → d.Kept d'
    | none, d, d', x, h => by
      rw [DecState.decodeQuotedSlot] at h
      cases h
    | some t, d, d', x, h => by
      rw [DecState.decodeQuotedSlot] at h
      exact decodeTerm_kept t h
end

theorem decodeQuotedSlot_ctl : ∀ (w : Option WTerm) (q : Bool) (d d' : DecState) (x : Term),
    DecState.decodeQuotedSlot q d w = .ok (d', x) → d.Ctl d' :=
  fun w _ _ _ _ h => (DecState.decodeQuotedSlot_kept w h).1

theorem DecState.decodeQuotedSlot_sizes (quoted : Bool) : (t : Option WTerm) → (d d' : DecState) →
    (x : Term) → DecState.decodeQuotedSlot quoted d t = .ok (d', x) → d.SameSizes d' :=
  fun t _ _ _ h => (DecState.decodeQuotedSlot_kept t h).2

theorem DecState.decodeSlot_kept {q : Bool} {d d' : DecState} {prev : Option Term} {w : Option WTerm} {x : Term}
    (h : d.decodeSlot q prev w = .ok (d', x)) : d.Kept d' := by
  revert h
  fun_cases DecState.decodeSlot q d prev w with
  | case1 t => exact decodeTerm_kept _  -- term present
  | case2 t => intro h; cases h; exact .refl _  -- repeated term
  | case3 => intro h; cases h  -- nothing to repeat: KeyError

theorem DecState.decodeSpo_kept {q : Bool} {d d' : DecState} {s p o : Option WTerm} {x : Term × Term × Term}
    (h : d.decodeSpo q s p o = .ok (d', x)) : d.Kept d' := by
  rw [DecState.decodeSpo_eq] at h
  obtain ⟨⟨d1, ts⟩, h1, h⟩ := Except.bind_eq_ok.1 h
  obtain ⟨⟨d2, tp⟩, h2, h⟩ := Except.bind_eq_ok.1 h
  obtain ⟨⟨d3, to⟩, h3, h⟩ := Except.bind_eq_ok.1 h
  cases h
  have k2 := decodeSlot_kept h2
  have k3 := decodeSlot_kept h3
  exact ((decodeSlot_kept h1).trans k2).trans k3

/-- A row never changes the options, the adapter or the size of a table. -/
theorem DecState.decodeRow_kept {q : Bool} {d d' : DecState} {r : Row} {ev : Option Event}
    (h : d.decodeRow q r = .ok (d', ev)) : d'.opts = d.opts ∧ d'.adapter = d.adapter ∧ d.SameSizes d' := by
  have of_kept : ∀ {d1 : DecState}, d.Kept d1 → d1.opts = d.opts ∧ d1.adapter = d.adapter ∧ d.SameSizes d1 :=
    fun k => ⟨k.1.2.2, k.1.2.1, k.2⟩
  cases r with
  | empty => cases h
  | options o =>
    rw [DecState.decodeRow] at h
    split at h <;> cases h
    exact ⟨rfl, rfl, .refl _⟩
  | prefixEntry id v =>
    rw [DecState.decodeRow] at h
    split at h <;> cases h
    exact ⟨rfl, rfl, rfl, LookupDec.assignEntry_length _ _ _ _ ‹_›, rfl⟩
  | nameEntry id v =>
    rw [DecState.decodeRow] at h
    split at h <;> cases h
    exact ⟨rfl, rfl, LookupDec.assignEntry_length _ _ _ _ ‹_›, rfl, rfl⟩
  | dtEntry id v =>
    rw [DecState.decodeRow] at h
    split at h <;> cases h
    exact ⟨rfl, rfl, rfl, rfl, LookupDec.assignEntry_length _ _ _ _ ‹_›⟩
  | triple s p o =>
    rw [DecState.decodeRow_triple] at h
    obtain ⟨⟨d1, ts, tp, to⟩, h1, h⟩ := Except.bind_eq_ok.1 h
    have e : d1 = d' := by
      dsimp only at h
      split at h
      · cases h
        rfl
      · cases h
      · split at h <;> cases h
        rfl
    exact e ▸ of_kept (decodeSpo_kept h1)
  | quad s p o g =>
    rw [DecState.decodeRow_quad] at h
    obtain ⟨⟨d1, ts, tp, to⟩, h1, h⟩ := Except.bind_eq_ok.1 h
    obtain ⟨⟨d2, tg⟩, h2, h⟩ := Except.bind_eq_ok.1 h
    have k := (decodeSpo_kept h1).trans (decodeSlot_kept h2)
    dsimp only at h
    split at h <;> cases h
    exact of_kept k
  | graphStart g =>
    cases g with
    | none => cases h
    | some t =>
      rw [DecState.decodeRow_graphStart] at h
      obtain ⟨⟨d1, tg⟩, h1, h⟩ := Except.bind_eq_ok.1 h
      have k := of_kept (decodeTerm_kept t h1)
      dsimp only at h
      split at h <;> cases h
      exact k
  | graphEnd =>
    rw [DecState.decodeRow] at h
    split at h <;> cases h
    exact ⟨rfl, rfl, .refl _⟩
  | «namespace» name iri =>
    rw [DecState.decodeRow_namespace] at h
    obtain ⟨⟨d1, s⟩, h1, h⟩ := Except.bind_eq_ok.1 h
    cases h
    exact of_kept (decodeIri_kept h1)

def DecState.mapOpts (f : ParserOptions → ParserOptions) (d : DecState) : DecState :=
  { d with opts := f d.opts }

def liftOpts {α : Type} (f : ParserOptions → ParserOptions) :
    Except PyErr (DecState × α) → Except PyErr (DecState × α)
  | .error e => .error e
  | .ok (d, x) => .ok (d.mapOpts f, x)

@[simp] theorem liftOpts_error {α} (f) (e : PyErr) :
    liftOpts (α := α) f (.error e) = .error e := rfl
@[simp] theorem liftOpts_ok {α} (f) (d : DecState) (x : α) :
    liftOpts f (.ok (d, x)) = .ok (d.mapOpts f, x) := rfl

@[simp] theorem mapOpts_rep (f) (d : DecState) : (d.mapOpts f).rep = d.rep := rfl
@[simp] theorem mapOpts_adapter (f) (d : DecState) : (d.mapOpts f).adapter = d.adapter := rfl
@[simp] theorem mapOpts_graphId (f) (d : DecState) : (d.mapOpts f).graphId = d.graphId := rfl
@[simp] theorem mapOpts_names (f) (d : DecState) : (d.mapOpts f).names = d.names := rfl
@[simp] theorem mapOpts_prefixes (f) (d : DecState) : (d.mapOpts f).prefixes = d.prefixes := rfl
@[simp] theorem mapOpts_datatypes (f) (d : DecState) : (d.mapOpts f).datatypes = d.datatypes := rfl
theorem mapOpts_with_rep (f) (d : DecState) (r : Repeated) :
    ({ d.mapOpts f with rep := r } : DecState) = ({ d with rep := r } : DecState).mapOpts f := rfl

theorem liftOpts_bind {α β : Type} (f : ParserOptions → ParserOptions) (r : Except PyErr (DecState × α))
    {k k' : DecState × α → Except PyErr (DecState × β)}
    (hk : ∀ d x, k' (d.mapOpts f, x) = liftOpts f (k (d, x))) :
    (liftOpts f r >>= k') = liftOpts f (r >>= k) := by
  rcases r with e | ⟨d, x⟩
  · rfl
  · exact hk d x

theorem decodeIri_mapOpts (f) (d : DecState) (p n : Nat) :
    (d.mapOpts f).decodeIri p n = liftOpts f (d.decodeIri p n) := by
  unfold DecState.decodeIri
  simp only [DecState.mapOpts]
  split
  · rfl
  · split <;> rfl

theorem decodeLiteral_mapOpts (f) (d : DecState) (lex : String) (k : WLitKind) :
    (d.mapOpts f).decodeLiteral lex k = liftOpts f (d.decodeLiteral lex k) := by
  unfold DecState.decodeLiteral
  simp only [DecState.mapOpts]
  cases k with
  | plain => rfl
  | lang l => dsimp only; split <;> rfl
  | dt id => dsimp only; split <;> rfl

mutual
  theorem decodeTerm_mapOpts (f) (q : Bool) : ∀ (t : WTerm) (d : DecState),
      (d.mapOpts f).decodeTerm q t = liftOpts f (d.decodeTerm q t)
    | .iri p n, d => by
      rw [DecState.decodeTerm_iri, DecState.decodeTerm_iri, decodeIri_mapOpts]
      exact liftOpts_bind f _ fun _ _ => rfl
    | .bnode b, d => by simp only [DecState.decodeTerm, liftOpts_ok]
    | .literal lex k, d => by simp only [DecState.decodeTerm, decodeLiteral_mapOpts]
    | .defaultGraph, d => by simp only [DecState.decodeTerm, liftOpts_ok]
    | .triple s p o, d => by
      rw [DecState.decodeTerm_triple, DecState.decodeTerm_triple, decodeQuotedSlot_mapOpts f q s d]
      refine liftOpts_bind f _ fun d1 ts => ?_
      dsimp only
      rw [decodeQuotedSlot_mapOpts f q p d1]
      refine liftOpts_bind f _ fun d2 tp => ?_
      dsimp only
      rw [decodeQuotedSlot_mapOpts f q o d2]
      refine liftOpts_bind f _ fun d3 to => ?_
      cases q <;> rfl
  theorem decodeQuotedSlot_mapOpts (f) (q : Bool) : ∀ (t : Option WTerm) (d : DecState),
      (d.mapOpts f).decodeQuotedSlot q t = liftOpts f (d.decodeQuotedSlot q t)
    | none, d => by simp only [DecState.decodeQuotedSlot, liftOpts_error]
    | some t, d => by
      simp only [DecState.decodeQuotedSlot]
      exact decodeTerm_mapOpts f q t d
end

theorem decodeSlot_mapOpts (f) (q : Bool) (d : DecState) (prev : Option Term) (w : Option WTerm) :
    (d.mapOpts f).decodeSlot q prev w = liftOpts f (d.decodeSlot q prev w) := by
  unfold DecState.decodeSlot
  cases w with
  | some t => exact decodeTerm_mapOpts f q t d
  | none => cases prev <;> rfl

theorem decodeSpo_mapOpts (f) (q : Bool) (d : DecState) (s p o : Option WTerm) :
    (d.mapOpts f).decodeSpo q s p o = liftOpts f (d.decodeSpo q s p o) := by
  rw [DecState.decodeSpo_eq, DecState.decodeSpo_eq, mapOpts_rep, decodeSlot_mapOpts]
  refine liftOpts_bind f _ fun d1 ts => ?_
  dsimp only
  rw [mapOpts_with_rep, mapOpts_rep, decodeSlot_mapOpts]
  refine liftOpts_bind f _ fun d2 tp => ?_
  dsimp only
  rw [mapOpts_with_rep, mapOpts_rep, decodeSlot_mapOpts]
  exact liftOpts_bind f _ fun d3 to => rfl

theorem decodeRow_mapOpts (f) (q : Bool) (d : DecState) (r : Row) (hr : ∀ o, r ≠ .options o) :
    (d.mapOpts f).decodeRow q r = liftOpts f (d.decodeRow q r) := by
  cases r with
  | options o => exact absurd rfl (hr o)
  | empty => rfl
  | prefixEntry id v =>
    simp only [DecState.decodeRow, mapOpts_prefixes]
    cases d.prefixes.assignEntry id v <;> rfl
  | nameEntry id v =>
    simp only [DecState.decodeRow, mapOpts_names]
    cases d.names.assignEntry id v <;> rfl
  | dtEntry id v =>
    simp only [DecState.decodeRow, mapOpts_datatypes]
    cases d.datatypes.assignEntry id v <;> rfl
  | triple s p o =>
    rw [DecState.decodeRow_triple, DecState.decodeRow_triple, decodeSpo_mapOpts]
    refine liftOpts_bind f _ fun d' x => ?_
    dsimp only [mapOpts_adapter, mapOpts_graphId]
    cases d.adapter with
    | triples => rfl
    | quads => rfl
    | graphs => cases d'.graphId <;> rfl
  | quad s p o g =>
    rw [DecState.decodeRow_quad, DecState.decodeRow_quad, decodeSpo_mapOpts]
    refine liftOpts_bind f _ fun d' x => ?_
    dsimp only
    rw [mapOpts_rep, decodeSlot_mapOpts]
    refine liftOpts_bind f _ fun d'' tg => ?_
    dsimp only [mapOpts_adapter]
    cases d.adapter <;> rfl
  | graphStart g =>
    cases g with
    | none => rfl
    | some t =>
      rw [DecState.decodeRow_graphStart, DecState.decodeRow_graphStart, decodeTerm_mapOpts]
      refine liftOpts_bind f _ fun d' tg => ?_
      dsimp only [mapOpts_adapter]
      cases d.adapter <;> rfl
  | graphEnd =>
    simp only [DecState.decodeRow, mapOpts_adapter]
    cases d.adapter <;> rfl
  | «namespace» name iri =>
    rw [DecState.decodeRow_namespace, DecState.decodeRow_namespace, decodeIri_mapOpts]
    exact liftOpts_bind f _ fun _ _ => rfl

/-- No quoted triple anywhere in a wire term / row (top level is enough: nothing else nests). -/
def WTerm.noQuoted : WTerm → Bool
  | .triple _ _ _ => false
  | _ => true

def optNoQuoted : Option WTerm → Bool
  | some t => t.noQuoted
  | none => true

def Row.noQuoted : Row → Bool
  | .triple s p o => optNoQuoted s && optNoQuoted p && optNoQuoted o
  | .quad s p o g => optNoQuoted s && optNoQuoted p && optNoQuoted o && optNoQuoted g
  | .graphStart g => optNoQuoted g
  | _ => true

theorem decodeTerm_flat (d : DecState) (t : WTerm) (h : t.noQuoted = true) :
    d.decodeTerm false t = d.decodeTerm true t := by
  cases t with
  | triple s p o => cases h
  | iri p n => simp only [DecState.decodeTerm]
  | bnode b => simp only [DecState.decodeTerm]
  | literal lex k => simp only [DecState.decodeTerm]
  | defaultGraph => simp only [DecState.decodeTerm]

theorem decodeSlot_flat (d : DecState) (prev : Option Term) (w : Option WTerm) (h : optNoQuoted w = true) :
    d.decodeSlot false prev w = d.decodeSlot true prev w := by
  unfold DecState.decodeSlot
  cases w with
  | none => rfl
  | some t => exact decodeTerm_flat d t h

theorem decodeSpo_flat (d : DecState) (s p o : Option WTerm) (hs : optNoQuoted s = true)
    (hp : optNoQuoted p = true) (ho : optNoQuoted o = true) :
    d.decodeSpo false s p o = d.decodeSpo true s p o := by
  rw [DecState.decodeSpo_eq, DecState.decodeSpo_eq]
  simp only [decodeSlot_flat _ _ s hs, decodeSlot_flat _ _ p hp, decodeSlot_flat _ _ o ho]

end Jelly
