import JellyModel.Decode
import JellyModel.Spec
import JellyModel.Parse
import JellyProofs.Lemmas.ExceptLemmas
/-!
# What the reader computes, as equations

The model writes every call that may raise as `match r with | .error e => .error e | .ok (d, x) => …`. Here
each such function is stated once as a chain of `>>=`, so that a fact about it is a composition of facts about
its steps (`Except.bind_eq_ok` to take a successful run apart, a bind rule of the relation at hand to put two runs
side by side) instead of a case analysis repeated in every proof. `rfl` does not prove these equations: a match
on a call that is not a constructor is not unfolded by the definitional equality check. Then the two row loops over
`++` (`decodeRows_append`, `Spec.run_append`), the reader's set-up (`LookupDec.new`, `DecState.new`, `optionsFromFrame`,
`adapterFor`) and the first step of the rules (`Spec.checkOptions_iff`, `Spec.step_options`) as equations with their
inversions.
-/
namespace Jelly

theorem DecState.decodeTerm_iri (q : Bool) (d : DecState) (p n : Nat) :
    d.decodeTerm q (.iri p n) = (d.decodeIri p n >>= fun (d', s) => pure (d', .iri s)) := by
  rw [DecState.decodeTerm]
  cases d.decodeIri p n <;> rfl

theorem DecState.decodeTerm_triple (q : Bool) (d : DecState) (s p o : Option WTerm) :
    d.decodeTerm q (.triple s p o) =
      (DecState.decodeQuotedSlot q d s >>= fun (d1, ts) =>
        DecState.decodeQuotedSlot q d1 p >>= fun (d2, tp) =>
          DecState.decodeQuotedSlot q d2 o >>= fun (d3, to) =>
            if q then pure (d3, .quoted ts tp to) else .error .notImplemented) := by
  rw [DecState.decodeTerm]
  rcases DecState.decodeQuotedSlot q d s with e | ⟨d1, ts⟩
  · rfl
  dsimp only [bind, Except.bind]
  rcases DecState.decodeQuotedSlot q d1 p with e | ⟨d2, tp⟩
  · rfl
  dsimp only
  rcases DecState.decodeQuotedSlot q d2 o with e | ⟨d3, to⟩ <;> rfl

theorem DecState.decodeSpo_eq (q : Bool) (d : DecState) (s p o : Option WTerm) :
    d.decodeSpo q s p o =
      (d.decodeSlot q d.rep.s s >>= fun (d1, ts) =>
        DecState.decodeSlot q { d1 with rep := { d1.rep with s := some ts } } d1.rep.p p >>= fun (d2, tp) =>
          DecState.decodeSlot q { d2 with rep := { d2.rep with p := some tp } } d2.rep.o o >>= fun (d3, to) =>
            pure ({ d3 with rep := { d3.rep with o := some to } }, ts, tp, to)) := by
  unfold DecState.decodeSpo
  rcases d.decodeSlot q d.rep.s s with e | ⟨d1, ts⟩
  · rfl
  dsimp only [bind, Except.bind]
  generalize DecState.decodeSlot q _ d1.rep.p p = r2
  rcases r2 with e | ⟨d2, tp⟩
  · rfl
  dsimp only
  generalize DecState.decodeSlot q _ d2.rep.o o = r3
  rcases r3 with e | ⟨d3, to⟩ <;> rfl

theorem Spec.resolveTerm_triple (st : Spec.State) (s p o : Option WTerm) :
    Spec.resolveTerm false st (.triple s p o) =
      (Spec.resolveQuotedSlot st s >>= fun (s1, ts) =>
        Spec.resolveQuotedSlot s1 p >>= fun (s2, tp) =>
          Spec.resolveQuotedSlot s2 o >>= fun (s3, to) => pure (s3, .quoted ts tp to)) := by
  rw [Spec.resolveTerm, if_neg Bool.false_ne_true]
  rcases Spec.resolveQuotedSlot st s with e | ⟨s1, ts⟩
  · rfl
  dsimp only [bind, Except.bind]
  rcases Spec.resolveQuotedSlot s1 p with e | ⟨s2, tp⟩
  · rfl
  dsimp only
  rcases Spec.resolveQuotedSlot s2 o with e | ⟨s3, to⟩ <;> rfl

theorem DecState.decodeRow_triple (q : Bool) (d : DecState) (s p o : Option WTerm) :
    d.decodeRow q (.triple s p o) =
      (d.decodeSpo q s p o >>= fun (d', ts, tp, to) =>
        match d.adapter with
        | .triples => pure (d', some (.stmt [ts, tp, to]))
        | .quads => .error .notImplemented
        | .graphs =>
          match d'.graphId with
          | none => .error .conformance
          | some g => pure (d', some (.stmt [ts, tp, to, g]))) := by
  rw [DecState.decodeRow]
  cases d.decodeSpo q s p o <;> rfl

theorem DecState.decodeRow_quad (q : Bool) (d : DecState) (s p o g : Option WTerm) :
    d.decodeRow q (.quad s p o g) =
      (d.decodeSpo q s p o >>= fun (d', ts, tp, to) =>
        d'.decodeSlot q d'.rep.g g >>= fun (d'', tg) =>
          match d.adapter with
          | .quads => pure ({ d'' with rep := { d''.rep with g := some tg } }, some (.stmt [ts, tp, to, tg]))
          | _ => .error .notImplemented) := by
  rw [DecState.decodeRow]
  rcases d.decodeSpo q s p o with e | ⟨d', ts, tp, to⟩
  · rfl
  dsimp only [bind, Except.bind]
  rcases d'.decodeSlot q d'.rep.g g with e | ⟨d'', tg⟩
  · rfl
  cases d.adapter <;> rfl

theorem DecState.decodeRow_graphStart (q : Bool) (d : DecState) (t : WTerm) :
    d.decodeRow q (.graphStart (some t)) =
      (d.decodeTerm q t >>= fun (d', tg) =>
        match d.adapter with
        | .graphs => pure ({ d' with graphId := some tg }, none)
        | _ => .error .notImplemented) := by
  rw [DecState.decodeRow]
  cases d.decodeTerm q t <;> rfl

theorem DecState.decodeRow_namespace (q : Bool) (d : DecState) (name : String) (iri : Option (Nat × Nat)) :
    d.decodeRow q (.namespace name iri) =
      (d.decodeIri (iri.getD (0, 0)).1 (iri.getD (0, 0)).2 >>= fun (d', s) =>
        pure (d', some (.ns name (.iri s)))) := by
  rw [DecState.decodeRow]
  rcases iri.getD (0, 0) with ⟨p, n⟩
  cases h : d.decodeIri p n <;> simp only [h] <;> rfl

theorem decodeRows_acc (q : Bool) (d : DecState) (rows : List Row) (acc : List Event) :
    d.decodeRows q rows acc =
      ((d.decodeRows q rows []).1, acc ++ (d.decodeRows q rows []).2.1, (d.decodeRows q rows []).2.2) := by
  induction rows generalizing d acc with
  | nil => simp [DecState.decodeRows]
  | cons r rs ih =>
    simp only [DecState.decodeRows]
    cases h : d.decodeRow q r with
    | error e => simp
    | ok p =>
      obtain ⟨d', ev⟩ := p
      simp only []
      rw [ih d' (acc ++ ev.toList), ih d' ([] ++ ev.toList)]
      simp [List.append_assoc]

theorem decodeRows_acc_fst (q : Bool) (d : DecState) (rows : List Row) (acc : List Event) :
    (d.decodeRows q rows acc).1 = (d.decodeRows q rows []).1 := by
  rw [decodeRows_acc]

theorem decodeRows_acc_events (q : Bool) (d : DecState) (rows : List Row) (acc : List Event) :
    (d.decodeRows q rows acc).2.1 = acc ++ (d.decodeRows q rows []).2.1 := by
  rw [decodeRows_acc]

theorem decodeRows_acc_err (q : Bool) (d : DecState) (rows : List Row) (acc : List Event) :
    (d.decodeRows q rows acc).2.2 = (d.decodeRows q rows []).2.2 := by
  rw [decodeRows_acc]

theorem decodeRows_append (q : Bool) (d : DecState) (rows₁ rows₂ : List Row) (acc : List Event) :
    d.decodeRows q (rows₁ ++ rows₂) acc =
      match d.decodeRows q rows₁ acc with
      | (d', evs, none) => d'.decodeRows q rows₂ evs
      | (d', evs, some e) => (d', evs, some e) := by
  fun_induction DecState.decodeRows q d rows₁ acc with
  | case1 d acc => rfl  -- no row left
  | case2 d r rs acc e h => rw [List.cons_append, DecState.decodeRows, h]  -- the row raised
  | case3 d r rs acc d' ev h ih => rw [List.cons_append, DecState.decodeRows, h]; exact ih  -- the row decoded

theorem Spec.run_append (st : Spec.State) (r₁ r₂ : List Row) (acc : List Event) (i : Nat) :
    Spec.run st (r₁ ++ r₂) acc i =
      match Spec.run st r₁ acc i with
      | (st', evs, none) => Spec.run st' r₂ evs (i + r₁.length)
      | stopped => stopped := by
  fun_induction Spec.run st r₁ acc i with
  | case1 st acc i => rfl  -- no row left
  | case2 st r rs acc i v h => rw [List.cons_append, Spec.run, h]  -- the row is rejected
  | case3 st r rs acc i st' ev h ih =>  -- the row is accepted
    rw [List.cons_append, Spec.run, h, List.length_cons, Nat.add_comm rs.length, ← Nat.add_assoc]
    exact ih

theorem LookupDec.new_eq (n : Nat) :
    LookupDec.new n = if n ≤ MAX_LOOKUP_SIZE then .ok (Spec.mkTable n) else .error .jassertion := by
  unfold LookupDec.new Spec.mkTable
  by_cases h : n ≤ MAX_LOOKUP_SIZE
  · rw [if_pos h, if_neg (by omega)]
  · rw [if_neg h, if_pos (by omega)]

theorem LookupDec.new_error (n : Nat) (h : 4096 < n) : LookupDec.new n = .error .jassertion := by
  rw [LookupDec.new_eq, if_neg (by simp only [MAX_LOOKUP_SIZE]; omega)]

/-- `Decoder.__init__`: three empty tables of the declared sizes, or `JellyAssertionError` when one of them is
    above the cap. -/
theorem DecState.new_eq (po : ParserOptions) (ad : AdapterKind) :
    DecState.new po ad =
      if po.maxNames ≤ MAX_LOOKUP_SIZE ∧ po.maxPrefixes ≤ MAX_LOOKUP_SIZE ∧
          po.maxDatatypes ≤ MAX_LOOKUP_SIZE then
        .ok { opts := po, adapter := ad, names := Spec.mkTable po.maxNames,
              prefixes := Spec.mkTable po.maxPrefixes, datatypes := Spec.mkTable po.maxDatatypes }
      else .error .jassertion := by
  simp only [DecState.new, LookupDec.new_eq, bind, Except.bind, pure, Except.pure]
  by_cases h1 : po.maxNames ≤ MAX_LOOKUP_SIZE
  · by_cases h2 : po.maxPrefixes ≤ MAX_LOOKUP_SIZE
    · by_cases h3 : po.maxDatatypes ≤ MAX_LOOKUP_SIZE
      · simp only [h1, h2, h3, if_true, and_self]
      · simp only [h1, h2, h3, if_true, if_false, and_false]
    · simp only [h1, h2, if_true, if_false, and_false, false_and]
  · simp only [h1, if_false, false_and]

theorem DecState.new_inv {opts : ParserOptions} {ad : AdapterKind} {d0 : DecState}
    (h : DecState.new opts ad = .ok d0) :
    d0 = { opts, adapter := ad, names := Spec.mkTable opts.maxNames,
           prefixes := Spec.mkTable opts.maxPrefixes, datatypes := Spec.mkTable opts.maxDatatypes } ∧
    opts.maxNames ≤ MAX_LOOKUP_SIZE ∧ opts.maxPrefixes ≤ MAX_LOOKUP_SIZE ∧
      opts.maxDatatypes ≤ MAX_LOOKUP_SIZE := by
  rw [DecState.new_eq] at h
  split at h <;> cases h
  exact ⟨rfl, ‹_›⟩

theorem DecState.new_oversized {opts : ParserOptions} (a : AdapterKind)
    (h : 4096 < opts.maxNames ∨ 4096 < opts.maxPrefixes ∨ 4096 < opts.maxDatatypes) :
    DecState.new opts a = .error .jassertion := by
  rw [DecState.new_eq, if_neg]
  simp only [MAX_LOOKUP_SIZE]
  omega

theorem adapterFor_inv {p : Nat} {ad : AdapterKind} (h : adapterFor p = .ok ad) :
    p = 1 ∨ p = 2 ∨ p = 3 := by
  revert h
  fun_cases adapterFor p with
  | case1 h1 => exact fun _ => .inl (eq_of_beq h1)  -- triples
  | case2 _ h2 => exact fun _ => .inr (.inl (eq_of_beq h2))  -- quads
  | case3 _ _ h3 => exact fun _ => .inr (.inr (eq_of_beq h3))  -- graphs
  | _ => intro h; cases h  -- no adapter: raises

/-- The rules' pair rule is the writer's, on a declared logical type (the rules also ask for that, pyjelly does not). -/
theorem Spec.typePairAllowed_iff {p l : Nat} (hp : p ≠ 0) :
    Spec.typePairAllowed p l = true ↔ typesCompatible p l = true ∧ (l = 0 ∨ validLogical l = true) := by
  unfold Spec.typePairAllowed typesCompatible
  by_cases hl : l = 0
  · subst hl
    simp
  · have e : ((l == 1 || l == 3 || l == 13) : Bool) = (l == 3 || l == 13 || l == 1) := by
      cases (l == 1) <;> cases (l == 3) <;> cases (l == 13) <;> rfl
    simp [hp, hl, e, and_comm]

/-- Writer-side and reader-side checks use the same rule. -/
theorem validateTypes_of_compatible {p l : Nat} (h : typesCompatible p l = true) :
    validateTypes p l = .ok () := by
  fun_cases validateTypes p l with
  | case1 => rfl  -- a type is unspecified: accepted
  | case5 => rfl  -- the pair agrees: accepted
  | _ h0 hne =>  -- the pair disagrees: every arm raises
    rw [typesCompatible, if_neg h0] at h
    exact absurd (eq_of_beq h) (bne_iff_ne.1 hne)

/-- The `ParserOptions` that `options_from_frame` derives from an options row. -/
def parserOptionsOf (o : Options) (delimited : Bool) : ParserOptions :=
  { physical := o.physicalType, logical := o.logicalType
    maxNames := o.maxNames, maxPrefixes := o.maxPrefixes, maxDatatypes := o.maxDatatypes
    streamName := o.streamName, generalized := o.generalized, rdfStar := o.rdfStar
    version := if o.version ≥ 2 then 2 else 1
    delimited, namespaceDeclarations := decide (o.version ≥ 2) }

/-- `options_from_frame` on a frame that starts with an options row. -/
theorem optionsFromFrame_options {f : Frame} {o : Options} {rest : List Row} (hf : f.rows = .options o :: rest)
    (dl : Bool) :
    optionsFromFrame f dl =
      (validateTypes o.physicalType o.logicalType >>= fun _ =>
        if o.maxNames < MIN_NAME_LOOKUP_SIZE then .error .conformance else .ok (parserOptionsOf o dl)) := by
  unfold optionsFromFrame
  rw [hf]
  dsimp only
  cases validateTypes o.physicalType o.logicalType <;> rfl

theorem optionsFromFrame_nonOptions {f : Frame} {first : Row} {rest : List Row} (hf : f.rows = first :: rest)
    (h : ∀ o, first ≠ .options o) (dl : Bool) : optionsFromFrame f dl = .error .conformance := by
  unfold optionsFromFrame
  rw [hf]
  cases first with
  | options o => exact absurd rfl (h o)
  | _ => rfl

theorem optionsFromFrame_inv {f : Frame} {o : Options} {rest : List Row} {dl : Bool} {opts : ParserOptions}
    (hf : f.rows = .options o :: rest) (h : optionsFromFrame f dl = .ok opts) :
    opts = parserOptionsOf o dl ∧ 8 ≤ o.maxNames := by
  rw [optionsFromFrame_options hf] at h
  obtain ⟨_, -, h⟩ := Except.bind_eq_ok.1 h
  split at h <;> cases h
  exact ⟨rfl, by simp only [MIN_NAME_LOOKUP_SIZE] at *; omega⟩

/-- `options_from_frame` clamps the version to 2, so an options row that declares a newer one fails the assert
    `self.options.params.version >= options.version` of `validate_stream_options`. -/
theorem DecState.decodeRow_newer {d : DecState} {o : Options} {dl : Bool} (q : Bool)
    (h0 : d.opts = parserOptionsOf o dl) (hv : 2 < o.version) :
    d.decodeRow q (.options o) = .error .assertionError := by
  have hver : d.opts.version ≤ 2 := by
    rw [h0, parserOptionsOf]
    split
    · exact Nat.le_refl 2
    · exact Nat.le_succ 1
  rw [DecState.decodeRow, DecState.validateOptions, if_neg]
  simp only [Bool.and_eq_true, decide_eq_true_eq]
  rintro ⟨⟨⟨⟨-, hge⟩, -⟩, -⟩, -⟩
  omega

/-- The rules' state after the options row `o` (`Spec.step_options`). -/
def Spec.initState (o : Options) : Spec.State :=
  { opts := some o, names := Spec.mkTable o.maxNames, prefixes := Spec.mkTable o.maxPrefixes,
    datatypes := Spec.mkTable o.maxDatatypes }

theorem Spec.checkOptions_iff (o : Options) :
    Spec.checkOptions o = .ok () ↔
      (o.physicalType = 1 ∨ o.physicalType = 2 ∨ o.physicalType = 3) ∧
      Spec.typePairAllowed o.physicalType o.logicalType = true ∧ 8 ≤ o.maxNames ∧
      1 ≤ o.version ∧ o.version ≤ 2 := by
  have hp : (1 ≤ o.physicalType ∧ o.physicalType ≤ 3) ↔
      (o.physicalType = 1 ∨ o.physicalType = 2 ∨ o.physicalType = 3) := by omega
  have hv : ¬ o.version = 0 ↔ 1 ≤ o.version := by omega
  simp only [Spec.checkOptions, Except.ite_error_eq_ok, Bool.not_eq_true', Bool.not_eq_false, Bool.and_eq_true,
    decide_eq_true_eq, beq_iff_eq, and_true, Nat.not_lt, gt_iff_lt, hp, hv]

theorem Spec.step_options (o : Options) :
    Spec.step {} (.options o) = (Spec.checkOptions o >>= fun _ => pure (Spec.initState o, none)) := rfl

end Jelly
