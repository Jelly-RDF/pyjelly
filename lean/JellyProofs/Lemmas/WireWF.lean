import JellyModel.WireDecode
/-!
# Rows the wire format carries faithfully

Boolean conditions on terms, options and rows: ids are uint32, every term sits in a position where the format has a
field for it, quoted triples nest within the parser's recursion limit. They are the hypotheses of the round-trip
theorems; everything the writer model produces satisfies them (`written_rows_wireWF`).
-/
namespace Jelly

def U32 : Nat := 2 ^ 32

def WTerm.depth : WTerm → Nat
  | .triple s p o => 1 + max (optDepth s) (max (optDepth p) (optDepth o))
  | _ => 0
where optDepth : Option WTerm → Nat
  | some t => t.depth
  | none => 0

mutual
  /-- A term that can sit in subject/predicate/object position on the wire: ids are uint32, no
      default-graph marker, quoted triples made of such terms. -/
  def WTerm.wfSpo : WTerm → Bool
    | .iri p n => p < U32 && n < U32
    | .bnode _ => true
    | .literal _ .plain => true
    | .literal _ (.lang _) => true
    | .literal _ (.dt id) => id < U32
    | .triple s p o => WTerm.wfOptSpo s && WTerm.wfOptSpo p && WTerm.wfOptSpo o
    | .defaultGraph => false
  def WTerm.wfOptSpo : Option WTerm → Bool
    | none => true
    | some t => t.wfSpo
end

def WTerm.wfGraph : WTerm → Bool
  | .triple _ _ _ => false
  | .defaultGraph => true
  | t => t.wfSpo

def optWfGraph : Option WTerm → Bool
  | none => true
  | some t => t.wfGraph

def Options.wf (o : Options) : Bool :=
  o.physicalType < U32 && o.maxNames < U32 && o.maxPrefixes < U32 && o.maxDatatypes < U32 &&
  o.logicalType < U32 && o.version < U32

/-- Rows the wire format can carry faithfully (everything the writer model produces satisfies it as
    long as ids stay below 2³² and quoted triples nest fewer than `depthLimit - 2` deep). -/
def Row.wireWF : Row → Bool
  | .options o => o.wf
  | .triple s p o =>
    WTerm.wfOptSpo s && WTerm.wfOptSpo p && WTerm.wfOptSpo o &&
    WTerm.depth.optDepth s + 2 < depthLimit && WTerm.depth.optDepth p + 2 < depthLimit && WTerm.depth.optDepth o + 2 < depthLimit
  | .quad s p o g =>
    WTerm.wfOptSpo s && WTerm.wfOptSpo p && WTerm.wfOptSpo o && optWfGraph g &&
    WTerm.depth.optDepth s + 2 < depthLimit && WTerm.depth.optDepth p + 2 < depthLimit && WTerm.depth.optDepth o + 2 < depthLimit
  | .graphStart g => optWfGraph g
  | .graphEnd => true
  | .namespace _ iri => (match iri with | some (p, n) => p < U32 && n < U32 | none => true)
  | .nameEntry id _ => id < U32
  | .prefixEntry id _ => id < U32
  | .dtEntry id _ => id < U32
  | .empty => true

end Jelly
