import JellyModel.Wire
/-!
# Byte-level facts about `varint`, `tag`, `lenDelim`

The first byte of `varint n` is `0x0A` exactly when `n = 10` (`varint_cons`), and `0x0A` is the tag of field 1 with
wire type 2: this is all the framing detector of C08 looks at in the first three bytes of a written stream.
-/
namespace Jelly

theorem varint_lt (n : Nat) (h : n < 128) : varint n = [n.toUInt8] := by
  rw [varint]; simp [h]

theorem varint_ge (n : Nat) (h : ¬ n < 128) :
    varint n = (n % 128 + 128).toUInt8 :: varint (n / 128) := by
  rw [varint]; simp [h]

theorem varint_ne_nil (n : Nat) : varint n ≠ [] := by
  by_cases h : n < 128
  · rw [varint_lt n h]; simp
  · rw [varint_ge n h]; simp

theorem varint_length_pos (n : Nat) : 0 < (varint n).length :=
  List.length_pos_iff.mpr (varint_ne_nil n)

theorem toUInt8_toNat_lt (n : Nat) (h : n < 256) : n.toUInt8.toNat = n := by
  simp [Nat.toUInt8, UInt8.toNat_ofNat']
  omega

theorem toUInt8_eq_ten_iff (n : Nat) (h : n < 256) : n.toUInt8 = 10 ↔ n = 10 := by
  constructor
  · intro e
    have := congrArg UInt8.toNat e
    rw [toUInt8_toNat_lt n h] at this
    simpa using this
  · intro e; subst e; rfl

theorem varint_cons (n : Nat) : ∃ h t, varint n = h :: t ∧ (h = 10 ↔ n = 10) := by
  by_cases hn : n < 128
  · refine ⟨n.toUInt8, [], varint_lt n hn, toUInt8_eq_ten_iff n (by omega)⟩
  · refine ⟨(n % 128 + 128).toUInt8, varint (n / 128), varint_ge n hn, ?_⟩
    rw [toUInt8_eq_ten_iff _ (by omega)]
    omega

theorem varint_head?_eq_ten_iff (n : Nat) : (varint n).head? = some 0x0A ↔ n = 10 := by
  obtain ⟨h, t, e, hh⟩ := varint_cons n
  rw [e]; simp [hh]

theorem varint_ten : varint 10 = [0x0A] := by
  rw [varint_lt 10 (by omega)]; rfl

theorem varint_zero : varint 0 = [0] := by
  rw [varint_lt 0 (by omega)]; rfl

theorem tag_1_2 : tag 1 2 = [0x0A] := by
  simp only [tag]; exact varint_ten

theorem lenDelim_one (p : Bytes) : lenDelim 1 p = 0x0A :: (varint p.length ++ p) := by
  simp [lenDelim, tag_1_2]

end Jelly
