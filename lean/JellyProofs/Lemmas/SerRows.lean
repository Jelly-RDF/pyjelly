import JellyProofs.Lemmas.Exec
/-!
# The loops of the generic serializer as command lists

The encoder operations of `SerGeneric.lean`, the command list of each loop, and the equation
`loop = Run.exec (commands)`; then what every run of `streamFrames` inherits from `Run.exec_flat`.
-/
namespace Jelly

def tripleOp (exc : PyErr) (t : List Term) : EncOp := fun enc => encodeTriple exc enc t
def quadOp (exc : PyErr) (t : List Term) : EncOp := fun enc => encodeQuad exc enc t
def failOp (e : PyErr) : EncOp := fun enc => (enc, .error e)
def graphEndOp : EncOp := fun enc => (enc, .ok [Row.graphEnd])

def graphStartOp (g : Term) : EncOp := fun enc =>
  match enc.te.beginRow with
  | .error e => (enc, .error e)
  | .ok te0 =>
    match te0.graph g with
    | (te', .error e) => ({ enc with te := te' }, .error e)
    | (te', .ok (rows, w)) => ({ enc with te := te'.endRow }, .ok (rows ++ [Row.graphStart (some w)]))

theorem graphStartOp_ok_inv {g : Term} {enc enc' : EncState} {rows : List Row}
    (h : graphStartOp g enc = (enc', .ok rows)) :
    ∃ te' rows0 w, enc.te.startRow.graph g = (te', .ok (rows0, w)) ∧ enc' = { enc with te := te'.endRow } ∧
      rows = rows0 ++ [Row.graphStart (some w)] := by
  unfold graphStartOp TermEnc.beginRow at h
  split at h
  · cases h  -- broken encoder: refused
  · rename_i te0 hb
    split at hb <;> cases hb
    rcases hg : enc.te.startRow.graph g with ⟨te', e | ⟨rows0, w⟩⟩ <;> rw [hg] at h <;> cases h
    exact ⟨te', rows0, w, rfl, rfl, rfl⟩

def nsOp (name iri : String) : EncOp := fun enc =>
  match encodeNamespace enc.te name iri with
  | (te', .error e) => ({ enc with te := te' }, .error e)
  | (te', .ok rows) => ({ enc with te := te' }, .ok rows)

def stmtCmds (op : List Term → EncOp) (ts : List (List Term)) : List Cmd :=
  ts.flatMap fun t => [.emit (op t), .cut .bounds]

@[simp] theorem stmtCmds_cons (op : List Term → EncOp) (t : List Term) (ts : List (List Term)) :
    stmtCmds op (t :: ts) = .emit (op t) :: .cut .bounds :: stmtCmds op ts := rfl

/-- `Stream.triple` / `Stream.quad` with the encoder operation as a parameter: run `op t`, then `emit` its rows. -/
def stepOf (op : List Term → EncOp) (s : Stream) (t : List Term) : Res Stream (Option Frame) :=
  match op t s.enc with
  | (enc', .error e) => ({ s with enc := enc' }, .error e)
  | (enc', .ok rows) => ((({ s with enc := enc' } : Stream).emit rows).1,
                         .ok (({ s with enc := enc' } : Stream).emit rows).2)

theorem stepOf_err {op : List Term → EncOp} {s s' : Stream} {t : List Term} {e : PyErr}
    (h : stepOf op s t = (s', .error e)) : ∃ enc', op t s.enc = (enc', .error e) ∧ s' = { s with enc := enc' } := by
  unfold stepOf at h
  rcases hop : op t s.enc with ⟨enc', e' | rows⟩ <;> rw [hop] at h
  · cases h; exact ⟨enc', rfl, rfl⟩
  · cases h

theorem stepOf_congr {op : List Term → EncOp} {s : Stream} {enc : EncState} {t : List Term}
    (h : op t enc = op t s.enc) : stepOf op { s with enc := enc } t = stepOf op s t := by
  unfold stepOf; rw [show ({ s with enc := enc } : Stream).enc = enc from rfl, h]

theorem Stream.triple_stepOf (exc : PyErr) : Stream.triple exc = stepOf (tripleOp exc) := by
  funext s t; exact Stream.triple_eq exc s t

theorem Stream.quad_stepOf (exc : PyErr) : Stream.quad exc = stepOf (quadOp exc) := by
  funext s t; exact Stream.quad_eq exc s t

theorem stmtLoop_exec (op : List Term → EncOp) (ts : List (List Term)) (r : Run) :
    stmtLoop (stepOf op) r ts = r.exec (stmtCmds op ts) := by
  induction ts generalizing r with
  | nil => rfl
  | cons t ts ih =>
    rw [stmtLoop, stmtCmds_cons, Run.exec_emit]
    unfold stepOf
    rcases op t r.stream.enc with ⟨enc', e | rows⟩
    · rfl
    · exact ih _

def graphCmds (exc : PyErr) (g : Term) (ts : List (List Term)) : List Cmd :=
  .emit (graphStartOp g) :: (stmtCmds (tripleOp exc) ts ++ [.emit graphEndOp, .cut .bounds])

theorem Stream.graphTriples_stmtLoop (exc : PyErr) (ts : List (List Term)) (s : Stream) (acc : List Frame) :
    Stream.graphTriples exc s ts acc =
      ((stmtLoop (Stream.triple exc) { stream := s, frames := acc } ts).stream,
       (stmtLoop (Stream.triple exc) { stream := s, frames := acc } ts).frames,
       (stmtLoop (Stream.triple exc) { stream := s, frames := acc } ts).err) := by
  fun_induction Stream.graphTriples exc s ts acc with
  | case1 s acc => rfl  -- no triple left
  | case2 s acc t ts s' e h => simp [stmtLoop, h]  -- the triple raised
  | case3 s acc t ts s' fr h ih => simpa [stmtLoop, h, Run.push] using ih  -- the triple is written

theorem Stream.graph_exec (exc : PyErr) (s : Stream) (g : Term) (ts : List (List Term)) :
    s.graph exc g ts =
      ((Run.exec { stream := s } (graphCmds exc g ts)).stream,
       (Run.exec { stream := s } (graphCmds exc g ts)).frames,
       (Run.exec { stream := s } (graphCmds exc g ts)).err) := by
  unfold Stream.graph graphCmds
  rw [Run.exec_emit]
  unfold graphStartOp
  dsimp only
  rcases s.enc.te.beginRow with e0 | te0
  · rfl
  dsimp only
  rcases te0.graph g with ⟨te', e | ⟨rows, w⟩⟩
  · rfl
  dsimp only
  rw [Stream.graphTriples_stmtLoop, Stream.triple_stepOf, stmtLoop_exec, Run.exec_append_ok rfl]
  generalize Run.exec _ (stmtCmds (tripleOp exc) ts) = R
  rcases h : R.err with _ | e
  · simp [h, Run.exec_emit, graphEndOp, Run.pushCut, CutKind.apply]
  · simp [h]

/-- The graph block sets the error flag to the outcome of the graph, `exec` leaves it alone when nothing
    fails: the two agree on a run that has not failed. -/
theorem Run.exec_graphCmds {r : Run} (hr : r.err = none) (g : Term) (ts : List (List Term)) :
    r.exec (graphCmds .runtimeError g ts) =
      { stream := (r.stream.graph .runtimeError g ts).1, frames := r.frames ++ (r.stream.graph .runtimeError g ts).2.1,
        err := (r.stream.graph .runtimeError g ts).2.2 } := by
  rw [Run.exec_frames, Stream.graph_exec, hr, Option.or_none]

/-- The commands of the graph loop of `graphs_stream_frames` (`split_to_graphs` folded in). -/
def graphsCmds : Option (Term × List (List Term)) → List (List Term) → List Cmd
  | none, [] => []
  | some (g, ts), [] => graphCmds .runtimeError g ts
  | cur, st :: rest =>
    match stmtGraph? st with
    | none => [.emit (failOp .attributeError)]
    | some g =>
      match cur with
      | none => graphsCmds (some (g, [st.take 3])) rest
      | some (cg, acc) =>
        if cg == g then graphsCmds (some (cg, acc ++ [st.take 3])) rest
        else graphCmds .runtimeError cg acc ++ graphsCmds (some (g, [st.take 3])) rest

theorem graphsLoop_exec (stmts : List (List Term)) {r : Run} (hr : r.err = none)
    (cur : Option (Term × List (List Term))) :
    graphsLoop r cur stmts = r.exec (graphsCmds cur stmts) := by
  fun_induction graphsLoop r cur stmts with
  | case1 r => rfl  -- end of input, no graph open
  | case2 r g ts s' frs err h => rw [graphsCmds, Run.exec_graphCmds hr, h]  -- end of input: the open graph is written
  | case3 r cur st rest h => rw [graphsCmds, h]; rfl  -- no graph name: AttributeError
  | case4 r st rest g h ih => rw [graphsCmds, h]; exact ih hr  -- first quad: opens a graph
  | case5 r st rest g h cg acc heq ih =>  -- same graph name: collected
    rw [graphsCmds, h]
    simpa only [heq, if_true] using ih hr
  | case6 r st rest g h cg acc heq s' frs err hg r' herr =>  -- new graph name, writing the open graph raised
    rw [graphsCmds, h]
    simp only [heq, Bool.false_eq_true, if_false]
    rw [Run.exec_append_ok hr, Run.exec_graphCmds hr, hg, if_pos herr]
  | case7 r st rest g h cg acc heq s' frs err hg r' herr ih =>  -- new graph name, open graph written, next opened
    rw [graphsCmds, h]
    simp only [heq, Bool.false_eq_true, if_false]
    rw [Run.exec_append_ok hr, Run.exec_graphCmds hr, hg, if_neg herr]
    exact ih (by simpa using herr)

def epiKind : Bool → CutKind
  | true => .dataset
  | false => .graph

theorem epilogue_exec (r : Run) (b : Bool) : epilogue r b = r.exec [.cut (epiKind b), .cut .all] := by
  cases b <;> rfl

def nsCmds (ns : List (String × Term)) : List Cmd :=
  ns.map fun
    | (p, .iri i) => .emit (nsOp p i)
    | _ => .emit (failOp .attributeError)

def Run.ofRes (x : Res Stream Unit) : Run :=
  match x with
  | (s, .error e) => { stream := s, err := some e }
  | (s, .ok ()) => { stream := s }

theorem nsDeclarations_exec (ns : List (String × Term)) (s : Stream) :
    Run.ofRes (nsDeclarations s ns) = Run.exec { stream := s } (nsCmds ns) := by
  induction ns generalizing s with
  | nil => rfl
  | cons b rest ih =>
    obtain ⟨p, t⟩ := b
    cases t
    case iri i =>
      rw [nsDeclarations, nsCmds, List.map_cons, Run.exec_emit]
      unfold nsOp
      unfold Stream.namespaceDeclaration
      dsimp only
      rcases encodeNamespace s.enc.te p i with ⟨te', e | rows⟩
      · rfl
      · exact ih _
    all_goals rfl

def classCmds : StreamClass → List (List Term) → List Cmd
  | .triple, ts => stmtCmds (tripleOp .runtimeError) ts
  | .quad, ts => stmtCmds (quadOp .runtimeError) ts
  | .graph, ts => graphsCmds none ts

/-- The namespace declarations `streamFrames` makes for the data. -/
def SerData.decls (nsOn : Bool) : SerData → List (String × Term)
  | .sink sk => if nsOn then sk.namespaces else []
  | .gen _ => []

def prologueCmds (nsOn : Bool) (d : SerData) : List Cmd := nsCmds (d.decls nsOn)

def streamCmds (cls : StreamClass) (nsOn : Bool) (d : SerData) : List Cmd :=
  prologueCmds nsOn d ++ (classCmds cls d.stmts ++ [.cut (epiKind (classFromDataset cls)), .cut .all])

theorem prologue_exec (s : Stream) (d : SerData) :
    Run.ofRes (prologue s d) =
      Run.exec { stream := s.enroll } (prologueCmds s.opts.params.namespaceDeclarations d) := by
  unfold prologue prologueCmds
  cases d with
  | gen l => rfl
  | sink sk =>
    dsimp only [SerData.decls]
    rw [s.enroll_keeps.opts]
    cases s.opts.params.namespaceDeclarations
    · rfl
    · exact nsDeclarations_exec _ _

theorem classLoop_exec (c : StreamClass) {r : Run} (hr : r.err = none) (ts : List (List Term)) :
    classLoop c r ts = r.exec (classCmds c ts) := by
  cases c
  · show stmtLoop (Stream.triple _) r ts = _
    rw [Stream.triple_stepOf]; exact stmtLoop_exec _ ts r
  · show stmtLoop (Stream.quad _) r ts = _
    rw [Stream.quad_stepOf]; exact stmtLoop_exec _ ts r
  · exact graphsLoop_exec ts hr none

theorem framesWith_exec (c : StreamClass) (s : Stream) (d : SerData) :
    framesWith (classLoop c) (classFromDataset c) s d =
      Run.exec { stream := s.enroll } (streamCmds c s.opts.params.namespaceDeclarations d) := by
  have hp := prologue_exec s d
  rw [framesWith_eq, streamCmds, Run.exec_append_ok rfl, ← hp]
  generalize prologue s d = x
  rcases x with ⟨s1, e | u⟩
  · rfl
  · show (if _ then _ else _) = Run.exec { stream := s1 } _
    rw [Run.exec_append_ok rfl, ← classLoop_exec _ rfl, epilogue_exec]

theorem streamFrames_exec (s : Stream) (d : SerData) :
    streamFrames s d =
      Run.exec { stream := s.enroll } (streamCmds s.cls s.opts.params.namespaceDeclarations d) := by
  rw [streamFrames_eq, framesWith_exec]

/-- What every run of `streamFrames` inherits from `Run.exec_flat`. -/
theorem streamFrames_flat (s : Stream) (d : SerData) :
    Run.Flat { stream := s.enroll } (streamFrames s d)
      (flatRun s.enc (streamCmds s.cls s.opts.params.namespaceDeclarations d)) := by
  rw [streamFrames_exec, ← s.enroll_enc]
  exact Run.exec_flat _ _

/-- A sink that makes no declarations (option off, or no bindings) is the generator of its statements. -/
theorem streamFrames_sink_eq_gen (s : Stream) (sk : Sink)
    (h : prologueCmds s.opts.params.namespaceDeclarations (.sink sk) = []) :
    streamFrames s (.sink sk) = streamFrames s (.gen sk.store) := by
  rw [streamFrames_exec, streamFrames_exec, streamCmds, h]
  rfl

theorem stmtCmds_all {P : EncOp → Prop} {op : List Term → EncOp} {ts : List (List Term)}
    (h : ∀ t ∈ ts, P (op t)) : ∀ c ∈ stmtCmds op ts, c.All P := by
  intro c hc
  obtain ⟨t, ht, hc⟩ := List.mem_flatMap.1 hc
  simp only [List.mem_cons, List.not_mem_nil, or_false] at hc
  rcases hc with rfl | rfl
  · exact h t ht
  · trivial

theorem graphCmds_all {P : EncOp → Prop} {exc : PyErr} {g : Term} {ts : List (List Term)}
    (hs : P (graphStartOp g)) (he : P graphEndOp) (ht : ∀ t ∈ ts, P (tripleOp exc t)) :
    ∀ c ∈ graphCmds exc g ts, c.All P := by
  intro c hc
  simp only [graphCmds, List.mem_cons, List.mem_append, List.not_mem_nil, or_false] at hc
  rcases hc with rfl | hc | rfl | rfl
  · exact hs
  · exact stmtCmds_all ht c hc
  · exact he
  · trivial

/-- `Q`: any property of the statements that `take 3` inherits (the loop encodes `st.take 3`). -/
theorem graphsCmds_all {P : EncOp → Prop} (Q : List Term → Prop) (hf : P (failOp .attributeError))
    (hs : ∀ g, P (graphStartOp g)) (he : P graphEndOp) (ht : ∀ t, Q t → P (tripleOp .runtimeError t))
    (stmts : List (List Term)) (hst : ∀ st ∈ stmts, Q (st.take 3))
    (cur : Option (Term × List (List Term))) (hcur : ∀ x ∈ cur, ∀ t ∈ x.2, Q t) :
    ∀ c ∈ graphsCmds cur stmts, c.All P := by
  have hg : ∀ g ts, (∀ t ∈ ts, Q t) → ∀ c ∈ graphCmds .runtimeError g ts, c.All P :=
    fun g ts h => graphCmds_all (hs g) he (fun t ht' => ht t (h t ht'))
  fun_induction graphsCmds cur stmts with
  | case1 => simp  -- end of input, no graph open
  | case2 g ts => exact hg g ts (hcur _ rfl)  -- end of input: the open graph
  | case3 cur st rest h => exact fun c hc => List.mem_singleton.1 hc ▸ hf  -- no graph name
  | case4 st rest g h ih =>  -- first quad: opens a graph
    exact ih (fun s hs' => hst s (List.mem_cons_of_mem _ hs')) (by simpa using hst st List.mem_cons_self)
  | case5 st rest g h cg acc heq ih =>  -- same graph name: collected
    exact ih (fun s hs' => hst s (List.mem_cons_of_mem _ hs'))
      (by simpa [or_imp, forall_and] using ⟨hcur _ rfl, hst st List.mem_cons_self⟩)
  | case6 st rest g h cg acc heq ih =>  -- new graph name: the open graph, then the rest
    intro c hc
    rcases List.mem_append.1 hc with hc | hc
    · exact hg cg acc (hcur _ rfl) c hc
    · exact ih (fun s hs' => hst s (List.mem_cons_of_mem _ hs')) (by simpa using hst st List.mem_cons_self) c hc

theorem streamCmds_all {P : EncOp → Prop} (Q : List Term → Prop) (hf : P (failOp .attributeError))
    (hs : ∀ g, P (graphStartOp g)) (he : P graphEndOp) (ht : ∀ t, Q t → P (tripleOp .runtimeError t))
    (hq : ∀ t, Q t → P (quadOp .runtimeError t)) (hQ : ∀ t, Q t → Q (t.take 3))
    (cls : StreamClass) (b : Bool) (d : SerData) (hp : prologueCmds b d = [])
    (hst : ∀ st ∈ d.stmts, Q st) : ∀ c ∈ streamCmds cls b d, c.All P := by
  intro c hc
  simp only [streamCmds, hp, List.nil_append, List.mem_append, List.mem_cons, List.not_mem_nil,
    or_false] at hc
  rcases hc with hc | rfl | rfl
  · cases cls
    · exact stmtCmds_all (fun t h => ht t (hst t h)) c hc
    · exact stmtCmds_all (fun t h => hq t (hst t h)) c hc
    · exact graphsCmds_all Q hf hs he ht _ (fun st h => hQ _ (hst st h)) none (by simp) c hc
  · trivial
  · trivial

/-- A row property `R` that the rows of every statement operation have, under an encoder invariant `I` the operations
    keep, holds of every row of a run that makes no namespace declarations. `Q`: what is assumed of the statements;
    `take 3` must inherit it (the graph loop encodes `st.take 3`). -/
theorem streamFrames_rows_all {I : EncState → Prop} {R : Row → Prop} (Q : List Term → Prop)
    (hs : ∀ g, EncOp.Sound I R (graphStartOp g)) (he : R .graphEnd)
    (ht : ∀ t, Q t → EncOp.Sound I R (tripleOp .runtimeError t))
    (hq : ∀ t, Q t → EncOp.Sound I R (quadOp .runtimeError t)) (hQ : ∀ t, Q t → Q (t.take 3))
    (s : Stream) (d : SerData) (hp : prologueCmds s.opts.params.namespaceDeclarations d = [])
    (hst : ∀ st ∈ d.stmts, Q st) (hi : I s.enc) (hr : ∀ x ∈ s.flow.rows, R x) (ho : R s.optionsRow) :
    ∀ x ∈ Run.allRows' (streamFrames s d), R x := by
  have hf : EncOp.Sound I R (failOp .attributeError) := fun _ _ _ _ h => by simp [failOp] at h
  have hge : EncOp.Sound I R graphEndOp := fun enc enc' rows hi h => by
    obtain ⟨rfl, rfl⟩ : enc = enc' ∧ [Row.graphEnd] = rows := by simpa [graphEndOp] using h
    exact ⟨hi, by simpa using he⟩
  rw [streamFrames_exec]
  exact (Run.exec_rows_all (streamCmds_all Q hf hs hge ht hq hQ s.cls _ d hp hst) (r := { stream := s.enroll })
    (s.enroll_enc ▸ hi) (by simpa [Run.allRows'] using s.enroll_rows_all hr ho)).1

/-- `stepOf op · t` is the execution of `stmtCmds op [t]` on a run that has handed out nothing. -/
theorem stepOf_exec (op : List Term → EncOp) (s : Stream) (t : List Term) :
    (stepOf op s t).1 = (Run.exec { stream := s } (stmtCmds op [t])).stream ∧
    resFrames (stepOf op s t).2 = (Run.exec { stream := s } (stmtCmds op [t])).frames ∧
    resErr (stepOf op s t).2 = (Run.exec { stream := s } (stmtCmds op [t])).err := by
  unfold stepOf
  rw [stmtCmds_cons, Run.exec_emit]
  rcases op t s.enc with ⟨enc', e | rows⟩
  · exact ⟨rfl, rfl, rfl⟩
  · exact ⟨rfl, (List.nil_append _).symm, rfl⟩

theorem stepOf_good (op : List Term → EncOp) : GoodStep (stepOf op) where
  keeps s t := (stepOf_exec op s t).1 ▸ (Run.exec_flat _ { stream := s }).keeps
  ne_nil s t := (stepOf_exec op s t).2.1 ▸ (Run.exec_flat _ { stream := s }).noEmpty (.init _ _)
  psim {A₁ s₁ A₂ s₂} t h := by
    obtain ⟨a₁, b₁, c₁⟩ := stepOf_exec op s₁ t
    obtain ⟨a₂, b₂, c₂⟩ := stepOf_exec op s₂ t
    rw [a₁, b₁, c₁, a₂, b₂, c₂]
    exact Run.exec_psim h _
  pending s t hb hfs := by
    unfold stepOf
    rcases op t s.enc with ⟨enc', e | rows⟩
    · simp
    · exact fun _ => Flow.frameFromBounds_pending _ hb hfs

theorem Stream.triple_good (exc : PyErr) : GoodStep (Stream.triple exc) :=
  Stream.triple_stepOf exc ▸ stepOf_good _

theorem Stream.quad_good (exc : PyErr) : GoodStep (Stream.quad exc) :=
  Stream.quad_stepOf exc ▸ stepOf_good _

/-- The epilogue only looks at the stream: it appends its frames and leaves the error flag. -/
theorem epilogue_eq (r : Run) (b : Bool) :
    epilogue r b = { stream := (epilogue { stream := r.stream } b).stream,
                     frames := r.frames ++ (epilogue { stream := r.stream } b).frames, err := r.err } := by
  rw [epilogue_exec, epilogue_exec, Run.exec_frames]
  rfl

theorem streamCmds_flush (cls : StreamClass) (b : Bool) (d : SerData) :
    ∃ cs, streamCmds cls b d = cs ++ [.cut .all] :=
  ⟨prologueCmds b d ++ (classCmds cls d.stmts ++ [.cut (epiKind (classFromDataset cls))]), by simp [streamCmds]⟩

theorem streamFrames_flow_rows (s : Stream) (d : SerData) (h : (streamFrames s d).err = none) :
    (streamFrames s d).stream.flow.rows = [] := by
  obtain ⟨cs, hcs⟩ := streamCmds_flush s.cls s.opts.params.namespaceDeclarations d
  rw [streamFrames_exec, hcs] at h ⊢
  exact Run.exec_flush rfl _ h

theorem streamFrames_keeps (s : Stream) (d : SerData) : s.Keeps (streamFrames s d).stream :=
  s.enroll_keeps.trans (streamFrames_flat s d).keeps

theorem Stream.enroll_eq_self {s : Stream} (h : s.enrolled = true) : s.enroll = s := by
  simp [Stream.enroll, h]

/-- The commands of a grouped run: those of each sink, one sink after the other. -/
def groupedCmds (cls : StreamClass) (nsOn : Bool) (sinks : List Sink) : List Cmd :=
  sinks.flatMap fun sk => streamCmds cls nsOn (.sink sk)

/-- The loop of `grouped_stream_to_frames` once the stream exists and is enrolled: one execution. -/
theorem grouped_go_exec (o : SerOptions) (sinks : List Sink) (cur : Stream) (acc : List Frame)
    (henr : cur.enrolled = true) (hopts : cur.opts = o) :
    groupedStreamToFrames.go (some cur) (some o) acc sinks =
      ((Run.exec { stream := cur, frames := acc }
          (groupedCmds cur.cls o.params.namespaceDeclarations sinks)).frames,
       some (Run.exec { stream := cur, frames := acc }
          (groupedCmds cur.cls o.params.namespaceDeclarations sinks)).stream,
       (Run.exec { stream := cur, frames := acc }
          (groupedCmds cur.cls o.params.namespaceDeclarations sinks)).err) := by
  induction sinks generalizing cur acc with
  | nil => rfl
  | cons sk rest ih =>
    have hf := Run.exec_flat (streamCmds cur.cls o.params.namespaceDeclarations (.sink sk)) { stream := cur }
    rw [groupedCmds, List.flatMap_cons, Run.exec_append_ok rfl, Run.exec_frames, groupedStreamToFrames.go]
    simp only [streamFrames_exec, Stream.enroll_eq_self henr, hopts, Option.or_none]
    generalize Run.exec { stream := cur } (streamCmds cur.cls o.params.namespaceDeclarations (.sink sk)) = R at hf
    rcases he : R.err with _ | e
    · have := ih R.stream (acc ++ R.frames) (hf.enrolled.trans henr) (hf.keeps.opts.trans hopts)
      rw [hf.keeps.cls] at this
      simpa [he, groupedCmds] using this
    · simp

/-- `grouped_stream_to_frames` with explicit options over a non-empty list of sinks is one execution on the
    stream `guess_stream` returns for the first sink. -/
theorem grouped_exec {o : SerOptions} {s : Stream} (first : Sink) (more : List Sink)
    (hguess : guessStream o first = .ok s) (hopts : s.opts = o) :
    groupedStreamToFrames (first :: more) (some o) =
      ((Run.exec { stream := s.enroll } (groupedCmds s.cls o.params.namespaceDeclarations (first :: more))).frames,
       some (Run.exec { stream := s.enroll } (groupedCmds s.cls o.params.namespaceDeclarations (first :: more))).stream,
       (Run.exec { stream := s.enroll } (groupedCmds s.cls o.params.namespaceDeclarations (first :: more))).err) := by
  have h := grouped_go_exec o (first :: more) s.enroll [] s.enroll_enrolled (s.enroll_keeps.opts.trans hopts)
  rw [s.enroll_keeps.cls] at h
  rw [← h]
  simp only [groupedStreamToFrames, groupedStreamToFrames.go, hguess, streamFrames_exec,
    Stream.enroll_eq_self s.enroll_enrolled]
  rw [s.enroll_keeps.cls, s.enroll_keeps.opts]

theorem groupedCmds_flush (cls : StreamClass) (b : Bool) (first : Sink) (more : List Sink) :
    ∃ cs, groupedCmds cls b (first :: more) = cs ++ [.cut .all] := by
  obtain ⟨init, last, h⟩ : ∃ init last, first :: more = init ++ [last] :=
    ⟨_, _, (List.dropLast_concat_getLast (List.cons_ne_nil first more)).symm⟩
  obtain ⟨cs, hcs⟩ := streamCmds_flush cls b (.sink last)
  exact ⟨groupedCmds cls b init ++ cs, by simp [h, groupedCmds, hcs]⟩

/-- The commands of the rdflib loops: all triples of all graphs with a flush offered after each graph, and one
    `GraphStream.graph` call per graph. -/
def triplesGraphsCmds (graphs : List (List (List Term))) : List Cmd :=
  graphs.flatMap fun g => stmtCmds (tripleOp .runtimeError) g ++ [.cut .graph]

def graphsCmdsR (gs : List (Term × List (List Term))) : List Cmd :=
  gs.flatMap fun x => graphCmds .runtimeError x.1 x.2

end Jelly
