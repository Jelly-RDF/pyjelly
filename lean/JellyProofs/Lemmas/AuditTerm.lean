import JellyProofs.Lemmas.AuditTable
import JellyProofs.Lemmas.TermSim
/-!
# Term-level audit (C19): entry rows of `TermEnc.iriIndices`, `TermEnc.literal`, `TermEnc.spo`,
# `TermEnc.graph` are not counted by `Spec.runAudit`, and the ids in the wire term are in zero form
# wherever the zero form applies (`Spec.termZeroAudit` counts nothing).

Independent of the LRU bookkeeping of C03: only well-formedness of the writer tables is needed.
-/
namespace Jelly

/-- The part of `WFT` that mentions no preset (`WFT.winv`): the audit lemmas and `AuditOnce` speak about a term
    encoder alone. -/
structure WInv (te : TermEnc) : Prop where
  wfn : te.names.lookup.WF
  wfp : te.prefixes.lookup.WF
  wfd : te.datatypes.lookup.WF
  posn : 0 < te.names.lookup.maxSize
  p0 : te.prefixes.lookup.maxSize = 0 → te.prefixes.lastReused = 0

/-- `XMirror` on each of the three tables. -/
structure XM (te : TermEnc) (ss : Spec.State) : Prop where
  n : XMirror te.names ss.names
  p : XMirror te.prefixes ss.prefixes
  d : XMirror te.datatypes ss.datatypes

theorem XM.em {te : TermEnc} {ss : Spec.State} (m : XM te ss) : EM te ss := ⟨m.n.em, m.p.em, m.d.em⟩

/-- The rows are entry rows which the reference decoder accepts, keeping the exact mirror, and which
    the audit does not count. -/
def IngestsA (te te' : TermEnc) (rows : List Row) : Prop :=
  ∀ ss, XM te ss → ss.opts ≠ none →
    ∃ ss', XM te' ss' ∧ SameFrame ss ss' ∧
      (∀ rest acc i, Spec.run ss (rows ++ rest) acc i = Spec.run ss' rest acc (i + rows.length)) ∧
      (∀ lc a rest, Spec.runAudit ss lc a (rows ++ rest) = Spec.runAudit ss' lc a rest)

theorem IngestsA.refl (te : TermEnc) : IngestsA te te [] :=
  fun ss m _ => ⟨ss, m, SameFrame.refl ss, fun _ _ _ => rfl, fun _ _ _ => rfl⟩

theorem IngestsA.trans {a b c : TermEnc} {r₁ r₂ : List Row} (h₁ : IngestsA a b r₁) (h₂ : IngestsA b c r₂) :
    IngestsA a c (r₁ ++ r₂) := by
  intro ss m ho
  obtain ⟨s1, m1, f1, e1, a1⟩ := h₁ ss m ho
  obtain ⟨s2, m2, f2, e2, a2⟩ := h₂ s1 m1 (by rw [f1.opts]; exact ho)
  refine ⟨s2, m2, f1.trans f2, ?_, ?_⟩
  · intro rest acc i
    rw [List.append_assoc, e1, e2, List.length_append, Nat.add_assoc]
  · intro lc a rest
    rw [List.append_assoc, a1, a2]

theorem IngestsA.tbl (r : Rule) {te : TermEnc} {e2 : LookupEnc} {oid k}
    (h : ∀ t, XMirror (te.tbl r) t →
      ∃ t', ingestEntry t oid k = .ok t' ∧ XMirror e2 t' ∧ t'.lastReused = t.lastReused ∧
        ∀ a, entryRowAudit t oid k a = a) :
    IngestsA te (te.setTbl e2 r) (r.entryRows oid k) := by
  intro ss m ho
  obtain ⟨t', h1, h2, h3, h4⟩ := h (ss.tbl r) (by cases r <;> first | exact m.n | exact m.p | exact m.d)
  obtain ⟨hsf, hrun, haud⟩ := run_entryRows r ho h1 h3
  exact ⟨_, by cases r <;> first | exact ⟨h2, m.p, m.d⟩ | exact ⟨m.n, h2, m.d⟩ | exact ⟨m.n, m.p, h2⟩,
    hsf, hrun, haud h4⟩

theorem IngestsA.prefixes {te : TermEnc} {e2 : LookupEnc} {oid k}
    (h : ∀ t, XMirror te.prefixes t →
      ∃ t', ingestEntry t oid k = .ok t' ∧ XMirror e2 t' ∧ t'.lastReused = t.lastReused ∧
        ∀ a, entryRowAudit t oid k a = a) :
    IngestsA te { te with prefixes := e2 } (prefixEntryRows oid k) :=
  IngestsA.tbl .prefix h

theorem IngestsA.datatypes {te : TermEnc} {e2 : LookupEnc} {oid k}
    (h : ∀ t, XMirror te.datatypes t →
      ∃ t', ingestEntry t oid k = .ok t' ∧ XMirror e2 t' ∧ t'.lastReused = t.lastReused ∧
        ∀ a, entryRowAudit t oid k a = a) :
    IngestsA te { te with datatypes := e2 } (dtEntryRows oid k) :=
  IngestsA.tbl .datatype h

/-- What the audit needs from an encoding step `te ⟶ te'` that emitted the entry rows `rows` and put
    the (optional) wire term `ow` into the statement. -/
structure GoodT (te te' : TermEnc) (rows : List Row) (ow : Option WTerm) : Prop where
  inv : WInv te'
  ing : IngestsA te te' rows
  zero : ∀ c, Spec.optZeroAudit te.names.lastReused te.prefixes.lastReused c ow
    = (te'.names.lastReused, te'.prefixes.lastReused, c)

theorem GoodT.none {te : TermEnc} (inv : WInv te) : GoodT te te [] none :=
  ⟨inv, IngestsA.refl te, fun _ => by simp only [Spec.optZeroAudit]⟩

theorem GoodT.plain {te : TermEnc} (inv : WInv te) (w : WTerm)
    (hw : ∀ ln lp c, Spec.termZeroAudit ln lp c w = (ln, lp, c)) : GoodT te te [] (some w) :=
  ⟨inv, IngestsA.refl te, fun _ => by simp only [Spec.optZeroAudit, hw]⟩

theorem iri_zero {ln lp ln' lp' p n : Nat}
    (hn : (n = 0 ∧ ln' = ln + 1) ∨ (n ≠ 0 ∧ n ≠ ln + 1 ∧ ln' = n))
    (hp : (p = 0 ∧ lp' = lp) ∨ (p ≠ 0 ∧ p ≠ lp ∧ lp' = p)) (c : Nat) :
    Spec.termZeroAudit ln lp c (.iri p n) = (ln', lp', c) := by
  simp only [Spec.termZeroAudit]
  rcases hn with ⟨rfl, rfl⟩ | ⟨hn0, hn1, rfl⟩ <;> rcases hp with ⟨rfl, rfl⟩ | ⟨hp0, hp1, rfl⟩
  · simp
  · have a : (lp' == lp) = false := by simpa using hp1
    have b : (lp' == 0) = false := by simpa using hp0
    simp [a, b]
  · have a : (ln' == ln + 1) = false := by simpa using hn1
    have b : (ln' == 0) = false := by simpa using hn0
    simp [a, b]
  · have a : (lp' == lp) = false := by simpa using hp1
    have b : (lp' == 0) = false := by simpa using hp0
    have a' : (ln' == ln + 1) = false := by simpa using hn1
    have b' : (ln' == 0) = false := by simpa using hn0
    simp [a, b, a', b']

theorem iriIndices_good {te te' : TermEnc} (inv : WInv te) {iri : String} {rows : List Row} {p n : Nat}
    (h : te.iriIndices iri = (te', .ok (rows, p, n))) : GoodT te te' rows (some (.iri p n)) := by
  rcases TermEnc.iriIndices_ok_inv h with ⟨_, rfl, ne1, noid, ne2, hne, hnt, rfl, rfl⟩ |
    ⟨hup, pe1, poid, ne1, noid, pe2, ne2, hpe, hne, hpt, hnt, rfl, rfl⟩
  · obtain ⟨hnu, hnz⟩ := useNameA inv.wfn inv.posn hne hnt
    refine ⟨⟨hnu.wf, inv.wfp, inv.wfd, by rw [hnu.max]; exact inv.posn, inv.p0⟩, IngestsA.tbl .name hnu.mirror,
      fun c => ?_⟩
    simp only [Spec.optZeroAudit]
    exact iri_zero hnz (Or.inl ⟨rfl, rfl⟩) c
  · obtain ⟨hpu, hpz⟩ := usePrefixA inv.wfp (Nat.pos_of_ne_zero hup) hpe hpt
    obtain ⟨hnu, hnz⟩ := useNameA inv.wfn inv.posn hne hnt
    refine ⟨⟨hnu.wf, hpu.wf, inv.wfd, by rw [hnu.max]; exact inv.posn, fun h => absurd (hpu.max ▸ h) hup⟩,
      (IngestsA.prefixes hpu.mirror).trans (IngestsA.tbl .name (te := { te with prefixes := pe2 }) hnu.mirror),
      fun c => ?_⟩
    simp only [Spec.optZeroAudit]
    exact iri_zero hnz hpz c

theorem literal_good {te te' : TermEnc} (inv : WInv te) (lex : String) (lang dt : Option String)
    {rows : List Row} {kind : WLitKind} (h : te.literal lang dt = (te', .ok (rows, kind))) :
    GoodT te te' rows (some (.literal lex kind)) := by
  rcases TermEnc.literal_ok_inv h with
    ⟨-, rfl, rfl, rfl⟩ | ⟨d, de1, doid, de2, did, rfl, -, h0, hde, hdt, rfl, rfl, rfl⟩
  · exact GoodT.plain inv _ (fun _ _ _ => by simp only [Spec.termZeroAudit])
  · have hdu := useDatatypeA inv.wfd (Nat.pos_of_ne_zero h0) hde hdt
    exact ⟨⟨inv.wfn, inv.wfp, hdu.wf, inv.posn, inv.p0⟩, IngestsA.datatypes hdu.mirror,
      fun c => by simp only [Spec.optZeroAudit, Spec.termZeroAudit]⟩

theorem spo_good : ∀ (t : Term) (te te' : TermEnc) (rows : List Row) (w : WTerm), WInv te →
    te.spo t = (te', .ok (rows, w)) → GoodT te te' rows (some w) := by
  intro t
  induction t with
  | iri s =>
    intro te te' rows w inv h
    obtain ⟨p, n, heq, rfl⟩ := TermEnc.spo_ok_inv h
    exact iriIndices_good inv heq
  | bnode b =>
    intro te te' rows w inv h
    obtain ⟨rfl, rfl, rfl⟩ := TermEnc.spo_ok_inv h
    exact GoodT.plain inv _ (fun _ _ _ => by simp only [Spec.termZeroAudit])
  | lit lex lang dt =>
    intro te te' rows w inv h
    obtain ⟨k, hl, rfl⟩ := TermEnc.spo_ok_inv h
    exact literal_good inv lex lang dt hl
  | quoted s p o ihs ihp iho =>
    intro te te' rows w inv h
    obtain ⟨te1, te2, r1, r2, r3, ws, wp, wo, h1, h2, h3, rfl, rfl⟩ := TermEnc.spo_ok_inv h
    have g1 := ihs te te1 r1 ws inv h1
    have g2 := ihp te1 te2 r2 wp g1.inv h2
    have g3 := iho te2 te' r3 wo g2.inv h3
    refine ⟨g3.inv, (g1.ing.trans g2.ing).trans g3.ing, ?_⟩
    intro c
    have z1 := g1.zero; have z2 := g2.zero; have z3 := g3.zero
    simp only [Spec.optZeroAudit] at z1 z2 z3 ⊢
    simp only [Spec.termZeroAudit, Spec.optZeroAudit, z1, z2, z3]
  | defaultGraph => intro te te' rows w _ h; exact (TermEnc.spo_ok_inv h).elim
  | unsupported => intro te te' rows w _ h; exact (TermEnc.spo_ok_inv h).elim

theorem graph_good (t : Term) (te te' : TermEnc) (rows : List Row) (w : WTerm) (inv : WInv te)
    (h : te.graph t = (te', .ok (rows, w))) : GoodT te te' rows (some w) := by
  -- on IRIs, literals and blank nodes `encode_graph` is `encode_spo`, by unfolding
  cases t with
  | iri s => exact spo_good (.iri s) te te' rows w inv h
  | lit lex lang dt => exact spo_good (.lit lex lang dt) te te' rows w inv h
  | bnode b => exact spo_good (.bnode b) te te' rows w inv h
  | defaultGraph =>
    obtain ⟨rfl, rfl, rfl⟩ := TermEnc.graph_ok_inv h
    exact GoodT.plain inv _ (fun _ _ _ => by simp only [Spec.termZeroAudit])
  | quoted s p o => exact (TermEnc.graph_ok_inv h).elim
  | unsupported => exact (TermEnc.graph_ok_inv h).elim

/-- A slot: the audit package, and the slot is present only if the term differs from the repeated
    term of the slot. -/
theorem encSlot_good {enc : TermEnc → Term → Res TermEnc (List Row × WTerm)} {te te' : TermEnc}
    {prev rs : Option Term} {t : Term} {rows : List Row} {ow : Option WTerm}
    (henc : ∀ te te' rows w, WInv te → enc te t = (te', .ok (rows, w)) → GoodT te te' rows (some w))
    (inv : WInv te) (h : encSlot enc te prev t = (te', rs, .ok (rows, ow))) :
    GoodT te te' rows ow ∧ (ow.isSome && prev == some t) = false := by
  rcases encSlot_inv h with ⟨_, rfl, rfl, rfl⟩ | ⟨hp, w, rfl, he⟩
  · exact ⟨GoodT.none inv, rfl⟩
  · refine ⟨henc te te' rows w inv he, ?_⟩
    have : (prev == some t) = false := by simpa using hp
    simp [this]

end Jelly
