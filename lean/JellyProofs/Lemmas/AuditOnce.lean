import JellyProofs.Lemmas.StreamSim
/-!
# C19 corollary: with a name table that never has to evict, every name is sent at most once

Writer-side invariant `Once`, kept by every run: the values of the name-entry rows emitted so far are
(up to order) exactly the keys resident in the name table, unless more of them were sent than the
table holds. `NStep` adds the count: at most one name entry per IRI occurrence. The size hypothesis
of the corollary is used once, at the end.
-/
namespace Jelly

def nameVals (rows : List Row) : List String :=
  rows.filterMap fun r => match r with | .nameEntry _ v => some v | _ => none

theorem nameVals_append (a b : List Row) : nameVals (a ++ b) = nameVals a ++ nameVals b := by
  simp [nameVals, List.filterMap_append]

theorem nameVals_prefixEntryRows (oid : Option Nat) (k : String) : nameVals (prefixEntryRows oid k) = [] := by
  cases oid <;> rfl

theorem nameVals_dtEntryRows (oid : Option Nat) (k : String) : nameVals (dtEntryRows oid k) = [] := by
  cases oid <;> rfl

/-- The name values sent so far are the resident keys — unless more values were sent than the table
    holds (only then can a key have been evicted and sent again). Kept by every step of the writer. -/
def Once (e : LookupEnc) (vals : List String) : Prop :=
  vals.Perm (e.lookup.data.map (·.1)) ∨ e.lookup.maxSize < vals.length

theorem EntryCase.once {e e' : LookupEnc} {k oid} {vals : List String} (wf : e.lookup.WF)
    (c : EntryCase e k e' oid) (h : Once e vals) : Once e' (vals ++ nameVals (nameEntryRows oid k)) := by
  rcases h with h | h
  case inr => exact Or.inr (by rw [(c.spec wf).1, List.length_append]; omega)
  cases c with
  | hit i hm he ho =>
    subst he ho
    exact Or.inl (by simpa [nameEntryRows, nameVals] using h.trans ((Lookup.bump_perm hm).map _).symm)
  | fill hk hlt he ho =>
    subst he ho
    refine Or.inl ?_
    simp only [nameEntryRows, nameVals, List.filterMap_cons, List.filterMap_nil, List.map_append, List.map_cons,
      List.map_nil, Lookup.pin_data]
    exact h.append_right _
  | evict k0 i0 rest hk hd hfull hnp he ho =>
    -- the table was full, so with this entry more values have been sent than it holds
    subst he ho
    refine Or.inr ?_
    have := h.length_eq
    simp only [List.length_map] at this
    simp only [nameEntryRows, nameVals, List.filterMap_cons, List.filterMap_nil, List.length_append, List.length_cons,
      List.length_nil, Lookup.pin_maxSize]
    omega

/-- A stretch of the writer's run as the name table sees it: at most `n` name entries are sent, and
    they keep `Once`. -/
def NStep (e e' : LookupEnc) (rows : List Row) (n : Nat) : Prop :=
  (nameVals rows).length ≤ n ∧ ∀ vals, Once e vals → Once e' (vals ++ nameVals rows)

theorem NStep.quiet {e : LookupEnc} {rows : List Row} (h : nameVals rows = []) (n : Nat) : NStep e e rows n :=
  ⟨by simp [h], fun vals ho => by simpa [h] using ho⟩

theorem NStep.trans {a b c : LookupEnc} {r₁ r₂ : List Row} {n₁ n₂ : Nat} (h₁ : NStep a b r₁ n₁)
    (h₂ : NStep b c r₂ n₂) : NStep a c (r₁ ++ r₂) (n₁ + n₂) :=
  ⟨by rw [nameVals_append, List.length_append]; exact Nat.add_le_add h₁.1 h₂.1,
   fun vals ho => by rw [nameVals_append, ← List.append_assoc]; exact h₂.2 _ (h₁.2 _ ho)⟩

theorem useNameOnce {e e1 e2 : LookupEnc} {k : String} {oid : Option Nat} {id : Nat} (wf : e.lookup.WF)
    (hpos : 0 < e.lookup.maxSize) (h1 : e.entryIndex k = .ok (e1, oid)) (h2 : e1.nameTermIndex k = .ok (e2, id)) :
    NStep e e2 (nameEntryRows oid k) 1 := by
  have c := entryIndex_ok_case wf hpos h1
  obtain ⟨wf1, _, _, i, hi⟩ := c.basic wf hpos
  rw [nameTermIndex_exact wf1 hi] at h2
  cases h2
  refine ⟨by cases oid <;> simp [nameEntryRows, nameVals], fun vals h => ?_⟩
  rcases c.once wf h with h1 | h1
  · exact Or.inl (h1.trans ((Lookup.bump_perm hi).map _).symm)
  · exact Or.inr (by simpa using h1)

theorem iriIndices_once {te te' : TermEnc} (inv : WInv te) {iri : String} {rows : List Row} {p n : Nat}
    (h : te.iriIndices iri = (te', .ok (rows, p, n))) : NStep te.names te'.names rows 1 := by
  rcases TermEnc.iriIndices_ok_inv h with ⟨_, _, ne1, noid, ne2, hne, hnt, rfl, rfl⟩ |
    ⟨_, pe1, poid, ne1, noid, pe2, ne2, _, hne, _, hnt, rfl, rfl⟩
  · exact useNameOnce inv.wfn inv.posn hne hnt
  · simpa only [NStep, nameVals_append, nameVals_prefixEntryRows, List.nil_append] using
      useNameOnce inv.wfn inv.posn hne hnt

theorem spo_once : ∀ (t : Term) (te te' : TermEnc) (rows : List Row) (w : WTerm),
    WInv te → te.spo t = (te', .ok (rows, w)) → NStep te.names te'.names rows t.iris.length := by
  intro t
  induction t with
  | iri s =>
    intro te te' rows w inv h
    obtain ⟨p, n, heq, _⟩ := TermEnc.spo_ok_inv h
    exact iriIndices_once inv heq
  | bnode b =>
    intro te te' rows w inv h
    obtain ⟨rfl, rfl, _⟩ := TermEnc.spo_ok_inv h
    exact NStep.quiet rfl _
  | lit lex lang dt =>
    intro te te' rows w inv h
    obtain ⟨k, hl, _⟩ := TermEnc.spo_ok_inv h
    rcases TermEnc.literal_ok_inv hl with ⟨-, rfl, rfl, -⟩ | ⟨d, de1, doid, de2, did, -, -, -, -, -, rfl, rfl, -⟩
    · exact NStep.quiet rfl _
    · exact NStep.quiet (nameVals_dtEntryRows doid d) _
  | quoted s p o ihs ihp iho =>
    intro te te' rows w inv h
    obtain ⟨te1, te2, r1, r2, r3, ws, wp, wo, h1, h2, h3, rfl, _⟩ := TermEnc.spo_ok_inv h
    have g1 := spo_good s te te1 r1 ws inv h1
    have g2 := spo_good p te1 te2 r2 wp g1.inv h2
    have := ((ihs te te1 r1 ws inv h1).trans (ihp te1 te2 r2 wp g1.inv h2)).trans (iho te2 te' r3 wo g2.inv h3)
    simpa only [Term.iris, List.length_append] using this
  | defaultGraph => intro te te' rows w _ h; exact (TermEnc.spo_ok_inv h).elim
  | unsupported => intro te te' rows w _ h; exact (TermEnc.spo_ok_inv h).elim

theorem encSlot_once {te te' : TermEnc} {prev rs : Option Term} {t : Term} {rows : List Row}
    {ow : Option WTerm} (inv : WInv te)
    (h : encSlot TermEnc.spo te prev t = (te', rs, .ok (rows, ow))) :
    NStep te.names te'.names rows t.iris.length ∧ WInv te' := by
  rcases encSlot_inv h with ⟨_, rfl, rfl, rfl⟩ | ⟨_, w, rfl, he⟩
  · exact ⟨NStep.quiet rfl _, inv⟩
  · exact ⟨spo_once t te te' rows w inv he, (spo_good t te te' rows w inv he).inv⟩

theorem NStep.mono {e e' : LookupEnc} {rows : List Row} {n m : Nat} (h : NStep e e' rows n) (hnm : n ≤ m) :
    NStep e e' rows m := ⟨Nat.le_trans h.1 hnm, h.2⟩

/-- Any successful `encodeTriple`, as the name table sees it; the tables stay well-formed. -/
theorem encodeTriple_once {exc : PyErr} {es es' : EncState} {terms : List Term} {rows : List Row}
    (inv : WInv es.te) (h : encodeTriple exc es terms = (es', .ok rows)) :
    NStep es.te.names es'.te.names rows (terms.flatMap Term.iris).length ∧ WInv es'.te := by
  obtain ⟨st1, hb, rfl⟩ := encodeTriple_ok_inv h
  obtain ⟨s, p, o, rest, te3, _, _, ws, wp, wo, rfl, ⟨te1, rs, r1, te2, rp, r2, ro, r3, h1, h2, h3, -, rfl⟩,
    rfl, rfl⟩ := encodeTripleBody_ok_inv hb
  have inv' : WInv es.te.startRow :=
    ⟨inv.wfn.congr rfl rfl rfl, inv.wfp.congr rfl rfl rfl, inv.wfd.congr rfl rfl rfl, inv.posn, inv.p0⟩
  obtain ⟨o1, w1⟩ := encSlot_once inv' h1
  obtain ⟨o2, w2⟩ := encSlot_once w1 h2
  obtain ⟨o3, w3⟩ := encSlot_once w2 h3
  -- `startRow`/`endRow` touch only `pinned`, which neither `Once` nor `WInv` looks at
  have o1' : NStep es.te.names te1.names r1 _ := o1
  have o3' : NStep te2.names te3.endRow.names r3 _ := o3
  refine ⟨(((o1'.trans o2).trans o3').trans (NStep.quiet rfl 0)).mono ?_,
    ⟨w3.wfn.congr rfl rfl rfl, w3.wfp.congr rfl rfl rfl, w3.wfd.congr rfl rfl rfl, w3.posn, w3.p0⟩⟩
  simp only [List.flatMap_cons, List.length_append]; omega

/-- A triple loop that ended without an exception, as the name table sees it. -/
theorem flatRun_triples_once (exc : PyErr) : ∀ (stmts : List (List Term)) (es : EncState), WInv es.te →
    (flatRun es (stmtCmds (tripleOp exc) stmts)).2.2 = none →
    NStep es.te.names (flatRun es (stmtCmds (tripleOp exc) stmts)).1.te.names
      (flatRun es (stmtCmds (tripleOp exc) stmts)).2.1 (stmts.flatMap fun t => t.flatMap Term.iris).length := by
  intro stmts
  induction stmts with
  | nil => exact fun es _ _ => NStep.quiet rfl _
  | cons t ts ih =>
    intro es inv
    rw [stmtCmds_cons, flatRun_emit]
    rcases hop : tripleOp exc t es with ⟨es', e | rows⟩
    · exact fun h => nomatch h
    · intro h
      rw [flatRun_cut] at h
      obtain ⟨hn, inv'⟩ := encodeTriple_once inv hop
      simpa only [List.flatMap_cons, List.length_append, flatRun_cut] using hn.trans (ih es' inv' h)

theorem triples_each_name_once (o : SerOptions) (s : Stream) (stmts : List (List Term))
    (hs : Stream.new .triple o = .ok s) (hwf : ∀ t ∈ stmts, tripleWF t = true)
    (hfit : ∀ t ∈ stmts, stmtFits o.preset t = true)
    (hbig : (stmts.flatMap fun t => t.flatMap Term.iris).length ≤ o.preset.maxNames) :
    (nameVals (Run.allRows' (streamFrames s (.gen stmts)))).Nodup := by
  obtain ⟨hv, hcls, -, henc0, -⟩ := Stream.new_spec hs
  have hI := fresh_inStep False hs
  have hrows : (flatRun s.enc (streamCmds .triple s.opts.params.namespaceDeclarations (.gen stmts))).2.1
      = (flatRun s.enc (stmtCmds (tripleOp .runtimeError) stmts)).2.1 := by
    show (flatRun s.enc (stmtCmds (tripleOp .runtimeError) stmts ++ [.cut .graph, .cut .all])).2.1 = _
    rw [flatRun_append]
    cases (flatRun s.enc (stmtCmds (tripleOp .runtimeError) stmts)).2.2 <;> simp
  rw [streamFrames_exec, hcls, exec_fresh_rows hs, hrows]
  -- the loop ends without an exception, in step with the reference decoder
  obtain ⟨x', _, -, -, hk, hfit'⟩ := tripleCmds_follows False (posn_of_valid hv)
    (Or.inl ⟨wireOptions_physical hs, rfl⟩) .runtimeError stmts hwf (fun h => h.elim) s.enc _ hI
  have hnone := hfit' fun t ht => .of_stmtFits hv (hfit t ht)
  obtain ⟨hlen, honce⟩ := flatRun_triples_once .runtimeError stmts s.enc (hI.1.inv.wft.winv (posn_of_valid hv)) hnone
  have wft' := (hk hnone).2.1.inv.wft
  rcases honce [] (Or.inl (by rw [henc0]; simp [TermEnc.new, LookupEnc.new, Lookup.new])) with ho | ho
  · exact (ho.nodup_iff).mpr wft'.wfn.keysNodup
  · rw [wft'.maxn, List.nil_append] at ho
    omega

end Jelly
