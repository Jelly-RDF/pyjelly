import JellyGenerated.FuncsGen
import JellyModel.Stream
/-!
# The TRANSLATED module-level functions equal the model

`JellyGenerated/FuncsGen.lean` is produced by `harness/gen_translate_funcs.py` on every run from the source of
`delimited_jelly_hint` (`pyjelly/parse/ioutils.py`), `split_iri` (`pyjelly/serialize/encode.py`) and the four
validators of `pyjelly/options.py` (`validate_type_compatibility`, `StreamTypes.flat`, `LookupPreset.__post_init__`,
`StreamParameters.__post_init__`). `hint_eq`: the translated detector returns, for EVERY byte string of any length (no
exception), what the model's `delimitedHint` returns — the generated tables hold headers of three bytes and of length
0–2 over eleven representative byte values, nothing longer. `split_iri_eq`: the translated splitter returns the model's
`splitIri` for every string. The validators are proved for ALL arguments (the generated tables cover the declared enum
values).
-/
namespace Jelly.Translated
open Jelly Jelly.Py

/-- the source compares `header[i]`, an `int`, with `magic`; the model compares bytes -/
theorem u8_toNat_beq (b : UInt8) : (b.toNat == 10) = (b == 10) := by
  rw [Bool.eq_iff_iff, beq_iff_eq, beq_iff_eq]
  exact ⟨fun h => UInt8.toNat_inj.mp h, fun h => h ▸ rfl⟩

theorem hint_eq (h : Bytes) : Gen.delimited_jelly_hint h = .ok (delimitedHint h) := by
  unfold Gen.delimited_jelly_hint delimitedHint
  match h with
  | [] | [_] | [_, _] => rfl
  | b0 :: b1 :: b2 :: rest =>
    simp only [bind, Except.bind, pure, Except.pure, bytesGet, List.length_cons, List.getElem?_cons_zero,
      List.getElem?_cons_succ, bne, u8_toNat_beq]
    have : decide (rest.length + 1 + 1 + 1 ≥ 3) = true := decide_eq_true (by omega)
    simp only [this, if_true]
    -- both sides are one function of three Booleans
    cases b0 == 10 <;> cases b1 == 10 <;> cases b2 == 10 <;> rfl

theorem lastIndexOf_take {c : Char} {cs : List Char} {i : Nat} (h : lastIndexOf c cs = some i) :
    cs.take (i + 1) = cs.take i ++ [c] := by
  fun_induction lastIndexOf c cs generalizing i with
  | case1 => cases h
  | case2 x xs j hr ih => cases h; rw [List.take_succ_cons, ih hr]; rfl  -- a later occurrence in the tail
  | case3 x xs hr hx => cases h; rw [beq_iff_eq.mp hx]; rfl  -- the head is the only occurrence
  | case4 x xs hr hx => cases h

theorem split_iri_eq (s : String) : Gen.split_iri s = .ok (splitIri s) := by
  unfold Gen.split_iri splitIri splitIriChars rpartition
  cases h1 : lastIndexOf '#' s.toList with
  | some i =>
    simp [pure, Except.pure, h1, lastIndexOf_take h1, String.ofList_append]
  | none =>
    cases h2 : lastIndexOf '/' s.toList with
    | some i =>
      simp [pure, Except.pure, h1, h2, lastIndexOf_take h2, String.ofList_append]
    | none =>
      simp [pure, Except.pure, h1, h2]

theorem validate_type_compatibility_eq (p l : Nat) :
    Gen.validate_type_compatibility p l = if typesCompatible p l then .ok () else .error .jassertion := by
  unfold Gen.validate_type_compatibility typesCompatible
  -- both sides are the same function of three Booleans: a type unspecified, physical = TRIPLES, logical in the
  -- triples-only set
  generalize hc : List.contains _ l = c
  have hc' : (l == 3 || l == 13 || l == 1) = c := by
    rw [← hc]
    simp only [List.contains_cons, List.contains_nil, Bool.or_false]
    ac_rfl
  rw [hc']
  generalize (p == 0 || l == 0) = a
  generalize (p == 1) = b
  cases a <;> cases b <;> cases c <;> rfl

theorem stream_types_flat_eq (l : Nat) : Gen.StreamTypes.flat l = .ok (logicalFlat l) := by
  unfold Gen.StreamTypes.flat logicalFlat
  simp only [List.contains_cons, List.contains_nil, Bool.or_false]
  rfl

theorem lookup_preset_post_init_eq (n p d : Nat) :
    Gen.LookupPreset.__post_init__ n
      = if ({ maxNames := n, maxPrefixes := p, maxDatatypes := d } : Preset).valid then .ok ()
        else .error .conformance := by
  unfold Gen.LookupPreset.__post_init__ Preset.valid MIN_NAME_LOOKUP_SIZE
  by_cases h : n < 8 <;> simp [h, pure, Except.pure, throw, throwThe, MonadExceptOf.throw] <;> omega

theorem stream_parameters_version_eq (nd : Bool) (v : Nat) (g s dl : Bool) (nm : String) :
    Gen.StreamParameters.__post_init__ nd v
      = .ok ({ generalized := g, rdfStar := s, delimited := dl, namespaceDeclarations := nd,
               streamName := nm } : Params).version := by
  cases nd <;> rfl

end Jelly.Translated
