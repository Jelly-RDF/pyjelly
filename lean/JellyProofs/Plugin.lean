import JellyModel.Plugin
import JellyProofs.C08
import JellyProofs.C15
import JellyProofs.C01Bytes
import JellyProofs.C02Full
/-!
# File-level entry points (`JellyModel/Plugin.lean`): the rdflib plugin, `flat_stream_to_file`

* C08 for the plugin: whatever is passed as `options=` / `stream=`, a successful run writes bytes that
  the detector classifies as the framing the STREAM was configured with.
* C02 / C01 for the plugin with everything guessed: a Graph (resp. Dataset) written by
  `Graph.serialize(format="jelly")` parses back, through the rdflib adapter, to its statements in
  iteration order.
* `flat_stream_to_file` always writes a delimited stream, and it parses back.
-/
namespace Jelly

/-- RDF 1.1 terms as rdflib can hold them: no quoted triples. -/
def Term.isQuoted : Term → Bool
  | .quoted _ _ _ => true
  | _ => false

/-- A stream as `Stream.new` / `for_rdflib` hands it out: not enrolled, nothing in the flow. -/
def Stream.fresh (s : Stream) : Prop := s.enrolled = false ∧ s.flow.rows = []

theorem Stream.new_fresh {cls : StreamClass} {o : SerOptions} {s : Stream} (h : Stream.new cls o = .ok s) :
    s.fresh := by
  obtain ⟨-, -, -, -, hr, he, -⟩ := Stream.new_spec h
  exact ⟨he, hr⟩

/-- When no row of the frames read carries a quoted triple, the parse that does not support them (`quoted = false`,
    the rdflib adapter) does exactly what the generic parse does. -/
theorem parseFlat_unquoted (kind : SourceKind) (b : Bytes) (strict : Bool) {opened : Opened}
    (hgo : getOptionsAndFrames kind b = .ok opened)
    (hnq : ∀ f ∈ opened.frames.1, ∀ r ∈ f.rows, r.noQuoted = true) :
    parseFlat kind b strict false = parseFlat kind b strict true := by
  unfold parseFlat
  rw [parseCore_eq, parseCore_eq, hgo]
  dsimp only
  rcases decoderOf _ opened.opts with e | d
  · rfl
  · dsimp only
    rw [C15_integrations_agree_frames d _ hnq]

/-- `guess_stream(guess_options(store), store)`: a TripleStream for a Graph, a QuadStream for a Dataset,
    of the flat logical type. -/
theorem plg_guess (b : Bool) {s : Stream} (hs : guessStreamR (guessOptionsR b) b = .ok s) :
    Stream.new (if b then .quad else .triple) (guessOptionsR b) = .ok s ∧
      validLogical s.logicalType = true := by
  have hs' : Stream.new (if b then .quad else .triple) (guessOptionsR b) = .ok s := by
    cases b <;> simpa [guessStreamR, guessOptionsR] using hs
  refine ⟨hs', ?_⟩
  cases b
  all_goals
    simp [Stream.new, guessOptionsR, inferFlow, flowForType, Flow.mk', Preset.valid, typesCompatible,
      MIN_NAME_LOOKUP_SIZE, StreamClass.physical, FlowKind.isBounded] at hs'
    rw [← hs']
    rfl

/-- The framing follows the stream's own options, not the `options=` argument. -/
theorem plugin_framing_follows_stream (st : RStore) (opts : Option SerOptions) (s : Stream) :
    (pluginSerialize st opts (some s)).1 = (streamFramesR s st).bytes s.opts.params.delimited := rfl

/-- C08 for the plugin. `s` is the stream the plugin ends up using (given, or guessed). If the run
    succeeds and wrote at least three bytes, the detector answers the stream's `delimited` flag. -/
theorem C08_plugin_detected (st : RStore) (opts : Option SerOptions) (stream : Option Stream) (s : Stream)
    (hs : (match stream with
            | some s' => Except.ok s'
            | none => guessStreamR (opts.getD (guessOptionsR st.isDataset)) st.isDataset) = Except.ok s)
    (hfresh : s.fresh)
    (hok : (pluginSerialize st opts stream).2 = none)
    (h3 : 3 ≤ (pluginSerialize st opts stream).1.length) :
    delimitedHint ((pluginSerialize st opts stream).1.take 3) = s.opts.params.delimited := by
  have hP : pluginSerialize st opts stream
      = ((streamFramesR s st).bytes s.opts.params.delimited, (streamFramesR s st).err) := by
    cases stream with
    | some s' =>
      cases hs
      rfl
    | none =>
      dsimp only at hs
      simp only [pluginSerialize, hs]
  rw [hP] at hok h3 ⊢
  -- the run ends with a flush, so its frames hold all rows; the first row is the options row
  obtain ⟨cs, hcs⟩ := loopCmdsR_flush st s.cls
  rw [streamFramesR_exec, hcs, ← List.append_assoc] at hok h3 ⊢
  have hm := (Run.exec_flat ((prologueCmdsR s.opts.params.namespaceDeclarations true st.ns ++ cs) ++ [.cut .all])
    { stream := s.enroll }).noMeta (fun _ h => nomatch h)
  have hrows := Run.exec_fresh_rows hfresh.1 hfresh.2
    ((prologueCmdsR s.opts.params.namespaceDeclarations true st.ns ++ cs) ++ [.cut .all])
  rw [Run.allRows', Run.exec_flush rfl _ hok, List.append_nil] at hrows
  generalize Run.exec { stream := s.enroll } _ = r at h3 hm hrows ⊢
  unfold Run.bytes at h3 ⊢
  generalize s.opts.params.delimited = dl at h3 ⊢
  cases dl with
  | false =>  -- written bare, the frames are one frame that starts with the options row
    simp only [Bool.false_eq_true, if_false]
    rw [writeSingle_concat _ hm, hrows, ← encFrame_eq { rows := _ } rfl]
    exact C08_hint_single (wireOptions s) _ []
  | true =>
    simp only [if_true] at h3 ⊢
    cases hfs : r.frames with
    | nil => rw [hfs] at hrows; cases hrows
    | cons g fs =>
      rw [hfs] at h3
      rw [List.flatMap_cons] at h3 ⊢
      exact C08_hint_delimited g _ (fun _ => hm g (by rw [hfs]; exact List.mem_cons_self)) h3

private theorem presetReadable_guess (b : Bool) : presetReadable (guessOptionsR b).preset = true := by
  cases b <;> decide

/-- What the two guessed cases share: the plugin writes the delimited bytes of the generic run over the
    store's statements, and since no statement term is quoted no row carries a quoted triple, so the
    rdflib adapter reads what the generic one reads. -/
private theorem plugin_guessed (st : RStore) (stmts : List (List Term)) (s : Stream)
    (hs : guessStreamR (guessOptionsR st.isDataset) st.isDataset = .ok s)
    (hl : loopCmdsR st s.cls
      = classCmds s.cls stmts ++ [.cut (epiKind (classFromDataset s.cls)), .cut .all])
    (hd : ∀ t ∈ stmts, stmtShallow t = true)
    (hrdf : ∀ t ∈ stmts, ∀ x ∈ t, x.isQuoted = false)
    (hsmall : framesSmall (streamFrames s (.gen stmts)))
    (hwf : ∀ t ∈ stmts, (if st.isDataset then StreamClass.quad else .triple).stmtWF t = true)
    (hfit : ∀ t ∈ stmts, stmtFits (guessOptionsR st.isDataset).preset t = true) :
    (pluginSerialize st none none).2 = none ∧
    parseFlat .seekable (pluginSerialize st none none).1 false false
      = { events := stmts.map (fun t => Event.stmt (t.map Term.norm)), err := none } := by
  obtain ⟨hs', hlt⟩ := plg_guess st.isDataset hs
  obtain ⟨-, -, hopts, -⟩ := Stream.new_spec hs'
  have hp := presetReadable_guess st.isDataset
  have herr := (frames_roundtrip _ _ s stmts hs' hlt hp hwf hfit true).1
  have hbytes := bytes_roundtrip _ _ s stmts true hs' hlt hp hwf hfit hd hsmall
  have hR : streamFramesR s st = streamFrames s (.gen stmts) :=
    streamFramesR_eq_gen s st stmts (by rw [hopts]; rfl) hl
  have hP : pluginSerialize st none none
      = (runBytes true (streamFrames s (.gen stmts)), (streamFrames s (.gen stmts)).err) := by
    have hdl : s.opts.params.delimited = true := by rw [hopts]; rfl
    simp only [pluginSerialize, Option.getD_none, hs, hR, hdl]
    rfl
  rw [hP]
  obtain ⟨opened, hgo, _, hfr⟩ := run_opened _ _ s stmts true hs' hlt hp hd herr hsmall _
    (fun rest => C13_header_fidelity _ _ s rest [] true hs')
  have hw := run_wfBelow (n := 0) (by decide) _ _ s stmts hs' hp (validLogical_lt_u32 _ hlt)
    (fun t ht x hx => by have := hrdf t ht x hx; cases x <;> first | exact Nat.le_refl 0 | cases this)
  refine ⟨herr, (parseFlat_unquoted .seekable _ false hgo ?_).trans hbytes⟩
  rw [hfr]
  exact fun f hf r hr => Row.noQuoted_of_wfBelow ((hw f hf).1 r hr)

/-- C02 for `Graph.serialize(format="jelly")` with everything guessed: TripleStream, flat triples,
    delimited, no declarations. The bytes parse back through the rdflib adapter (`quoted = false`) to
    the graph's triples in iteration order. -/
theorem C02_plugin_graph (ns : List (String × String)) (gid : Term) (triples : List (List Term))
    (hwf : ∀ t ∈ triples, tripleWF t = true)
    (hfit : ∀ t ∈ triples, stmtFits (guessOptionsR false).preset t = true)
    (hd : ∀ t ∈ triples, stmtShallow t = true)
    (hrdf : ∀ t ∈ triples, ∀ x ∈ t, x.isQuoted = false)
    (s : Stream) (hs : guessStreamR (guessOptionsR false) false = .ok s)
    (hsmall : framesSmall (streamFrames s (.gen triples))) :
    let st : RStore := { isDataset := false, ns := ns, graphs := [(gid, triples)], quads := [] }
    (pluginSerialize st none none).2 = none ∧
    parseFlat .seekable (pluginSerialize st none none).1 false false
      = { events := triples.map (fun t => Event.stmt (t.map Term.norm)), err := none } := by
  intro st
  have hcls : s.cls = .triple := (Stream.new_spec (plg_guess false hs).1).cls_eq
  exact plugin_guessed st triples s hs (by rw [hcls]; exact loopCmdsR_single st gid triples rfl) hd hrdf hsmall
    hwf hfit

/-- C02 for `Dataset.serialize(format="jelly")` with everything guessed: QuadStream, flat quads. -/
theorem C02_plugin_dataset (ns : List (String × String)) (graphs : List (Term × List (List Term)))
    (quads : List (List Term))
    (hwf : ∀ t ∈ quads, quadWF t = true)
    (hfit : ∀ t ∈ quads, stmtFits (guessOptionsR true).preset t = true)
    (hd : ∀ t ∈ quads, stmtShallow t = true)
    (hrdf : ∀ t ∈ quads, ∀ x ∈ t, x.isQuoted = false)
    (s : Stream) (hs : guessStreamR (guessOptionsR true) true = .ok s)
    (hsmall : framesSmall (streamFrames s (.gen quads))) :
    let st : RStore := { isDataset := true, ns := ns, graphs := graphs, quads := quads }
    (pluginSerialize st none none).2 = none ∧
    parseFlat .seekable (pluginSerialize st none none).1 false false
      = { events := quads.map (fun t => Event.stmt (t.map Term.norm)), err := none } := by
  intro st
  have hcls : s.cls = .quad := (Stream.new_spec (plg_guess true hs).1).cls_eq
  exact plugin_guessed st quads s hs (by rw [hcls]; rfl) hd hrdf hsmall hwf hfit

/-- rdflib `flat_stream_to_file` on a non-empty triple generator with guessed options writes a stream
    that is detected as delimited and parses back to the input. -/
theorem C01_rflat_triples (first : List Term) (rest : List (List Term)) (h3 : first.length = 3)
    (hwf : ∀ t ∈ first :: rest, tripleWF t = true)
    (hfit : ∀ t ∈ first :: rest, stmtFits (guessOptionsR false).preset t = true)
    (hd : ∀ t ∈ first :: rest, stmtShallow t = true)
    (s : Stream) (hs : guessStreamR (guessOptionsR false) false = .ok s)
    (hsmall : framesSmall (streamFrames s (.gen (first :: rest)))) :
    (flatStreamToFileR (first :: rest) none).2 = none ∧
    parseFlat .seekable (flatStreamToFileR (first :: rest) none).1 false true
      = { events := (first :: rest).map (fun t => Event.stmt (t.map Term.norm)), err := none } := by
  have hs' : Stream.new .triple (guessOptionsR false) = .ok s := (plg_guess false hs).1
  have hl := (plg_guess false hs).2
  have hcls := (Stream.new_spec hs').cls_eq
  have hp := presetReadable_guess false
  have hP : flatStreamToFileR (first :: rest) none
      = (runBytes true (streamFrames s (.gen (first :: rest))), (streamFrames s (.gen (first :: rest))).err) := by
    have hD : (first.length == 4) = false := by rw [h3]; rfl
    have hR : triplesStreamFramesR s false [] [first :: rest] = streamFrames s (.gen (first :: rest)) := by
      rw [C15_serializers_agree_triples]
      unfold streamFrames
      rw [hcls]
    simp only [flatStreamToFileR, flatStreamToFramesR, Option.getD_none, hD, hs, hcls, hR]
    rfl
  rw [hP]
  exact ⟨(C01_triples_frames _ s _ hs' hl hp hwf hfit true).1,
    C01_triples_bytes_delimited _ s _ hs' hl hp hwf hfit hd hsmall⟩

end Jelly
