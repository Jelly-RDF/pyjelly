import JellyGenerated.StmtGen
import JellyProofs.TranslatedEnc
/-!
# The TRANSLATED statement level of the writer equals the model

`JellyGenerated/StmtGen.lean` is produced from the module-level `encode_spo` / `encode_triple` / `encode_quad`
(`pyjelly/serialize/encode.py`) by `harness/gen_translate_stmt.py` on every run. They carry the repeated-term elision
(C19), the roll-back of the repeated terms when a statement is refused (C20) and the row bracket around every
statement (C18). The per-term methods of the integration's encoder subclass are parameters `enc` / `encG`; the
theorems hold for every pair that behaves like the model's `TermEnc.spo` / `TermEnc.graph` (`EncLike`), and
`modelEnc_like` shows the hypothesis is satisfiable. At the end `TermEncoder.encode_iri` and
`encode_namespace_declaration`, the row a namespace declaration becomes (C14).
-/
namespace Jelly.Translated
open Jelly Jelly.Py

/-- what `encode_spo` does, in the model's terms: the three slots in order -/
def spoSpec (exc : PyErr) (st : EncState) (terms : List Term) :
    EncState × Except PyErr (List Row × List Term × Option WTerm × Option WTerm × Option WTerm) :=
  match terms with
  | [] => (st, .error exc)
  | s :: rest =>
    match encSlot TermEnc.spo st.te st.rep.s s with
    | (te1, _, .error e) => ({ st with te := te1 }, .error e)
    | (te1, rs, .ok (r1, ws)) =>
      let st1 : EncState := { te := te1, rep := { st.rep with s := rs } }
      match rest with
      | [] => (st1, .error exc)
      | p :: rest =>
        match encSlot TermEnc.spo st1.te st1.rep.p p with
        | (te2, _, .error e) => ({ st1 with te := te2 }, .error e)
        | (te2, rp, .ok (r2, wp)) =>
          let st2 : EncState := { te := te2, rep := { st1.rep with p := rp } }
          match rest with
          | [] => (st2, .error exc)
          | o :: rest =>
            match encSlot TermEnc.spo st2.te st2.rep.o o with
            | (te3, _, .error e) => ({ st2 with te := te3 }, .error e)
            | (te3, ro, .ok (r3, wo)) =>
              ({ te := te3, rep := { st2.rep with o := ro } }, .ok (r1 ++ r2 ++ r3, rest, ws, wp, wo))

theorem triple_body_spec (exc : PyErr) (st : EncState) (terms : List Term) :
    encodeTripleBody exc st terms
      = match spoSpec exc st terms with
        | (st', .error e) => (st', .error e)
        | (st', .ok (rows, _, ws, wp, wo)) => (st', .ok (rows ++ [Row.triple ws wp wo])) := by
  fun_cases spoSpec exc st terms <;> simp +zetaDelta only [encodeTripleBody, *]

theorem quad_body_spec (exc : PyErr) (st : EncState) (terms : List Term) :
    encodeQuadBody exc st terms
      = match spoSpec exc st terms with
        | (st', .error e) => (st', .error e)
        | (st3, .ok (rows, rest, ws, wp, wo)) =>
          match rest with
          | [] => (st3, .error exc)
          | g :: _ =>
            match encSlot TermEnc.graph st3.te st3.rep.g g with
            | (te4, _, .error e) => ({ st3 with te := te4 }, .error e)
            | (te4, rg, .ok (r4, wg)) =>
              ({ te := te4, rep := { st3.rep with g := rg } }, .ok (rows ++ r4 ++ [Row.quad ws wp wo wg])) := by
  fun_cases spoSpec exc st terms <;> simp +zetaDelta only [encodeQuadBody, *]
  rfl

/-- the per-term encoder handed to the translated functions behaves like the model's `spo` (state kept on a refusal)
    -/
def EncLike (enc : Term → M TermEnc (List Row × WTerm)) (f : TermEnc → Term → Res TermEnc (List Row × WTerm)) : Prop :=
  ∀ t te, swap ((enc t).exec te) = f te t

theorem EncLike.exec {enc f} (h : EncLike enc f) (t : Term) (te : TermEnc) :
    (enc t).exec te = ((f te t).2, (f te t).1) :=
  swap_exec (h t te)

/-! ## `encode_spo`: three times the same slot -/

/-- One slot of `encode_spo` / `encode_quad` with the rest of the function as `k`: `t = next(terms)`; if it differs
    from the repeated term of the slot it is encoded, its rows and wire term are kept and it is remembered; then `k`.
    The model's name for it is `encSlot`. -/
def slotBlock {β : Type} (enc : Term → M TermEnc (List Row × WTerm)) (exc : PyErr)
    (getR : Repeated → Option Term) (setR : Repeated → Option Term → Repeated) (setW : PStmt → Option WTerm → PStmt)
    (terms : List Term) (rows : List Row) (statement : PStmt)
    (k : List Term → List Row → PStmt → M EncState β) : M EncState β := do
  let t ← liftE (pyNext exc terms)
  if getR (← get).rep != some t.1 then
    let r ← zoom (·.te) (fun st v => { st with te := v }) (enc t.1)
    modify fun st => { st with rep := setR st.rep (some t.1) }
    k t.2 (rows ++ r.1) (setW statement (some r.2))
  else
    k t.2 rows statement

theorem slotBlock_exec {β : Type} {enc f} (henc : EncLike enc f) (exc : PyErr)
    (getR : Repeated → Option Term) (setR : Repeated → Option Term → Repeated) (setW : PStmt → Option WTerm → PStmt)
    (terms : List Term) (rows : List Row) (m : PStmt) (k : List Term → List Row → PStmt → M EncState β)
    (hR : ∀ r, setR r (getR r) = r) (hW : setW m none = m) (st : EncState) :
    (slotBlock enc exc getR setR setW terms rows m k).exec st
      = match terms with
        | [] => (.error exc, st)
        | t :: rest =>
          match encSlot f st.te (getR st.rep) t with
          | (te1, _, .error e) => (.error e, { st with te := te1 })
          | (te1, r, .ok (rs, w)) => (k rest (rows ++ rs) (setW m w)).exec { te := te1, rep := setR st.rep r } := by
  unfold slotBlock encSlot
  cases terms with
  | nil => rfl
  | cons t rest =>
    simp only [py_exec, pyNext, henc.exec, bne]
    cases hb : getR st.rep == some t
    · simp only [py_exec, ↓reduceIte]
      rcases f st.te t with ⟨te1, _ | ⟨rs, w⟩⟩ <;> rfl
    · simp only [py_exec, ↓reduceIte, List.append_nil, hW, hR]

/-- `encode_spo` is the slot block for `s`, `p` and `o`, by unfolding: join points and unused locals disappear -/
theorem encode_spo_blocks (enc encG : Term → M TermEnc (List Row × WTerm)) (exc : PyErr)
    (terms : List Term) (m : PStmt) :
    Gen.encode_spo enc encG exc terms m
      = slotBlock enc exc (·.s) (fun r t => { r with s := t }) (fun m w => { m with s := w }) terms [] m
          fun terms rows m =>
        slotBlock enc exc (·.p) (fun r t => { r with p := t }) (fun m w => { m with p := w }) terms rows m
          fun terms rows m =>
        slotBlock enc exc (·.o) (fun r t => { r with o := t }) (fun m w => { m with o := w }) terms rows m
          fun terms rows m =>
        pure (rows, terms, m) := rfl

theorem encode_spo_exec (enc encG : Term → M TermEnc (List Row × WTerm)) (henc : EncLike enc TermEnc.spo)
    (exc : PyErr) (st : EncState) (terms : List Term) (g0 : Option WTerm) :
    (Gen.encode_spo enc encG exc terms { g := g0 }).exec st
      = match spoSpec exc st terms with
        | (st', .error e) => (.error e, st')
        | (st', .ok (rows, rest, ws, wp, wo)) => (.ok (rows, rest, { s := ws, p := wp, o := wo, g := g0 }), st') := by
  rw [encode_spo_blocks]
  -- on each path of `spoSpec` the blocks run with the outcomes of its slots; their lens laws (`hR`, `hW`) hold by `rfl`
  fun_cases spoSpec exc st terms <;>
    simp +zetaDelta (disch := intros; rfl) only [slotBlock_exec henc, py_exec, List.nil_append, List.append_assoc, *]

attribute [py_exec] start_row_eq end_row_eq

/-- `encode_triple`, for every per-term encoder that behaves like the model's: the row bracket, the three slots with
    their elision against the repeated terms, the roll-back of the repeated terms when a term is refused (the row
    stays open), `end_row()` and the triple row — the model's `encodeTriple`, state included. -/
theorem encode_triple_eq (enc encG : Term → M TermEnc (List Row × WTerm)) (henc : EncLike enc TermEnc.spo)
    (exc : PyErr) (st : EncState) (terms : List Term) :
    swap ((Gen.encode_triple enc encG exc terms).exec st) = encodeTriple exc st terms := by
  unfold Gen.encode_triple encodeTriple
  simp only [py_exec, triple_body_spec]
  cases hb : st.te.beginRow with
  | error e => rfl
  | ok te0 =>
    simp only [py_exec, encode_spo_exec _ _ henc]
    rcases spoSpec exc { te := te0, rep := st.rep } terms with ⟨st', _ | ⟨rows, rest, ws, wp, wo⟩⟩ <;>
      simp only [py_exec] <;> rfl

/-- `encode_quad`: as `encode_triple`, with the graph slot after the three others (same iterator, same roll-back). -/
theorem encode_quad_eq (enc encG : Term → M TermEnc (List Row × WTerm)) (henc : EncLike enc TermEnc.spo)
    (hencG : EncLike encG TermEnc.graph) (exc : PyErr) (st : EncState) (terms : List Term) :
    swap ((Gen.encode_quad enc encG exc terms).exec st) = encodeQuad exc st terms := by
  unfold Gen.encode_quad encodeQuad
  simp only [py_exec, quad_body_spec]
  cases hb : st.te.beginRow with
  | error e => rfl
  | ok te0 =>
    simp only [py_exec, encode_spo_exec _ _ henc]
    rcases spoSpec exc { te := te0, rep := st.rep } terms with ⟨st', _ | ⟨rows, rest, ws, wp, wo⟩⟩
    · simp only [py_exec]; rfl
    simp only [py_exec]
    cases rest with
    | nil => simp only [py_exec, pyNext]; rfl
    | cons g rest =>
      simp only [py_exec, pyNext, encSlot, bne, hencG.exec]
      cases hg : st'.rep.g == some g
      · simp only [py_exec, ↓reduceIte]
        rcases st'.te.graph g with ⟨te4, _ | ⟨r4, wg⟩⟩ <;> simp only [py_exec] <;> rfl
      · simp only [py_exec, ↓reduceIte, List.append_nil]; rfl

/-- the hypothesis of the two theorems is satisfiable: the model's own functions, as methods -/
def modelEnc (f : TermEnc → Term → Res TermEnc (List Row × WTerm)) : Term → M TermEnc (List Row × WTerm) :=
  fun t => ExceptT.mk (fun te => ((f te t).2, (f te t).1))

theorem modelEnc_like (f : TermEnc → Term → Res TermEnc (List Row × WTerm)) : EncLike (modelEnc f) f :=
  fun _ _ => rfl

theorem encode_triple_model (exc : PyErr) (st : EncState) (terms : List Term) :
    swap ((Gen.encode_triple (modelEnc TermEnc.spo) (modelEnc TermEnc.graph) exc terms).exec st)
      = encodeTriple exc st terms :=
  encode_triple_eq _ _ (modelEnc_like _) exc st terms

theorem encode_quad_model (exc : PyErr) (st : EncState) (terms : List Term) :
    swap ((Gen.encode_quad (modelEnc TermEnc.spo) (modelEnc TermEnc.graph) exc terms).exec st)
      = encodeQuad exc st terms :=
  encode_quad_eq _ _ (modelEnc_like _) (modelEnc_like _) exc st terms

theorem encode_iri_app (te : TermEnc) (iri : String)
    (hp : te.prefixes.lookup.evicting = true → te.prefixes.lookup.data ≠ [])
    (hn : te.names.lookup.evicting = true → te.names.lookup.data ≠ []) :
    Gen.TermEncoder.encode_iri iri te
      = (match (te.iriIndices iri).2 with
         | .ok (rows, p, n) => .ok (rows, (p, n))
         | .error e => .error e, (te.iriIndices iri).1) := by
  show (Gen.TermEncoder.encode_iri iri).exec te = _
  unfold Gen.TermEncoder.encode_iri
  simp only [py_exec, swap_exec (encode_iri_indices_eq te iri hp hn)]
  rcases te.iriIndices iri with ⟨te', _ | _⟩ <;> rfl

/-- `encode_namespace_declaration`: the row bracket, the IRI through the tables, the declaration row last; when the
    IRI is refused the row stays open (no `end_row()`), as in the model's `encodeNamespace`. -/
theorem encode_namespace_declaration_eq (te : TermEnc) (name iri : String)
    (hp : te.prefixes.lookup.evicting = true → te.prefixes.lookup.data ≠ [])
    (hn : te.names.lookup.evicting = true → te.names.lookup.data ≠ []) :
    swap ((Gen.encode_namespace_declaration name iri).exec te) = encodeNamespace te name iri := by
  unfold Gen.encode_namespace_declaration encodeNamespace
  -- `startRow` only resets the pins: the side conditions on `te` are, by unfolding, those on `te.startRow`
  have h : (Gen.TermEncoder.encode_iri iri).exec te.startRow = _ := encode_iri_app te.startRow iri hp hn
  cases hb : te.broken <;> simp only [py_exec, TermEnc.beginRow, hb, ↓reduceIte, Bool.false_eq_true, h]
  · rcases te.startRow.iriIndices iri with ⟨te', _ | ⟨rows, p, n⟩⟩ <;> simp only [py_exec] <;> rfl
  · rfl

end Jelly.Translated
