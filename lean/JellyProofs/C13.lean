import JellyModel.Parse
import JellyModel.Spec
import JellyProofs.Lemmas.DecodeFrame
import JellyProofs.Lemmas.SerFlow
/-!
# C13 — stream header fidelity and stream-type validation

`optionsFromFrame` reads back, field by field, what `Stream.optionsRow` wrote. The physical/logical pair rule exists
three times — writer (`typesCompatible`), reader (`validateTypes`), rules (`Spec.typePairAllowed`) — and the three
agree on every declared pair; what the reader refuses in a header (name table below 8, a table above 4096, a newer
version) it refuses before a statement row is decoded. The finite tables are checked by evaluation.
-/
namespace Jelly

/-- Decidable equality on `Except` (core derives none), for the table theorems below. -/
instance exceptDecEqC13 {ε α : Type} [DecidableEq ε] [DecidableEq α] : DecidableEq (Except ε α)
  | .error a, .error b => if h : a = b then isTrue (by rw [h]) else isFalse (fun h' => h (by cases h'; rfl))
  | .ok a, .ok b => if h : a = b then isTrue (by rw [h]) else isFalse (fun h' => h (by cases h'; rfl))
  | .error _, .ok _ => isFalse (fun h => by cases h)
  | .ok _, .error _ => isFalse (fun h => by cases h)

/-- What a reader is told equals what the stream was written with: physical type, logical
    type (as resolved by the flow), the three table sizes, the stream name (any Unicode string),
    the generalized and RDF-star flags — for every stream that could be constructed, whatever
    rows follow the options row, in both framing modes. -/
theorem C13_header_fidelity (cls : StreamClass) (o : SerOptions) (s : Stream) (rest : List Row)
    (md : List (String × Bytes)) (delimited : Bool) (hs : Stream.new cls o = .ok s) :
    optionsFromFrame { rows := s.optionsRow :: rest, metadata := md } delimited = .ok {
      physical := cls.physical, logical := s.logicalType
      maxNames := o.preset.maxNames, maxPrefixes := o.preset.maxPrefixes, maxDatatypes := o.preset.maxDatatypes
      streamName := o.params.streamName, generalized := o.params.generalized, rdfStar := o.params.rdfStar
      version := if o.params.namespaceDeclarations then 2 else 1
      delimited := delimited
      namespaceDeclarations := o.params.namespaceDeclarations } := by
  obtain ⟨hv, hcls, hopts, _, _, _, hc⟩ := Stream.new_spec hs
  rw [Preset.valid_iff] at hv
  unfold optionsFromFrame
  simp only [Stream.optionsRow, hcls, hopts, validateTypes_of_compatible hc]
  rw [if_neg (by simp only [MIN_NAME_LOOKUP_SIZE]; omega)]
  cases hnd : o.params.namespaceDeclarations <;> simp [Params.version, hnd]

/-- The declared protocol version is 2 precisely when namespace declarations are enabled. -/
theorem C13_version (cls : StreamClass) (o : SerOptions) (s : Stream) (hs : Stream.new cls o = .ok s) :
    ∃ op, s.optionsRow = .options op ∧ op.version = (if o.params.namespaceDeclarations then 2 else 1) := by
  obtain ⟨_, _, hopts, _⟩ := Stream.new_spec hs
  exact ⟨_, rfl, by simp only [hopts, Params.version]⟩

/-- The eight declared logical stream types. -/
def logicalTypes : List Nat := [0, 1, 2, 3, 4, 13, 14, 114]

/-- The writer-side check, the reader-side check and the specification's rule agree on every pair of a
    physical type and a declared logical type (in general: `Spec.typePairAllowed_iff`,
    `validateTypes_of_compatible`). -/
theorem C13_type_pairs_agree :
    ∀ p ∈ [1, 2, 3], ∀ l ∈ logicalTypes,
      typesCompatible p l = Spec.typePairAllowed p l ∧
      ((validateTypes p l).isOk = typesCompatible p l) := by
  decide +kernel

/-- A stream can only be constructed with an allowed pair and a name table of at least 8. -/
theorem C13_writer_rejects (cls : StreamClass) (o : SerOptions) (s : Stream) (hs : Stream.new cls o = .ok s) :
    typesCompatible cls.physical s.logicalType = true ∧ 8 ≤ o.preset.maxNames := by
  obtain ⟨hv, _, _, _, _, _, hc⟩ := Stream.new_spec hs
  exact ⟨hc, (Preset.valid_iff _).1 hv⟩

/-- The reader rejects name tables below 8 at the options row. -/
theorem C13_reader_rejects_small_names (f : Frame) (o : Options) (rest : List Row) (delimited : Bool)
    (hf : f.rows = .options o :: rest) (h : o.maxNames < 8) :
    ∃ e, optionsFromFrame f delimited = .error e := by
  rw [optionsFromFrame_options hf]
  cases validateTypes o.physicalType o.logicalType with
  | error e => exact ⟨e, rfl⟩
  | ok u => exact ⟨.conformance, if_pos (by simpa only [MIN_NAME_LOOKUP_SIZE] using h)⟩

/-- Strict logical-type gates: the flat parsers accept exactly the flat logical types and the
    grouped parsers exactly the grouped ones. The grouped gate is "specified and not flat", which is the five
    listed types on the declared eight only (it lets 5 through), hence the evaluation. -/
theorem C13_strict_gates :
    ∀ l ∈ logicalTypes,
      (strictFlatOk l = (l == 1 || l == 2)) ∧
      (strictGroupedOk l = (l == 3 || l == 4 || l == 13 || l == 14 || l == 114)) := by
  decide +kernel

/-- Without strict checking the logical type never influences what is parsed: on any row but an options row
    (there `validate_stream_options` compares it) the state reached by the decoder with the rewritten
    logical type is the state reached by the original decoder with its logical type rewritten, the event is
    the same, and failures are the same failures. Keeping the pair allowed is the caller's business. -/
theorem C13_logical_type_irrelevant_state (quoted : Bool) (d : DecState) (l : Nat) (r : Row)
    (hr : ∀ o, r ≠ .options o) :
    ({ d with opts := { d.opts with logical := l } } : DecState).decodeRow quoted r
      = match d.decodeRow quoted r with
        | .error e => .error e
        | .ok (d', ev) => .ok (({ d' with opts := { d'.opts with logical := l } } : DecState), ev) := by
  have h := decodeRow_mapOpts (fun po => { po with logical := l }) quoted d r hr
  simp only [DecState.mapOpts] at h
  rw [h]
  cases d.decodeRow quoted r with
  | error e => rfl
  | ok x => rfl

/-- `C13_logical_type_irrelevant_state` read at the delivered event alone. -/
theorem C13_logical_type_irrelevant (quoted : Bool) (d : DecState) (l : Nat) (r : Row)
    (hr : ∀ o, r ≠ .options o) :
    (({ d with opts := { d.opts with logical := l } } : DecState).decodeRow quoted r).map (fun x => (x.2))
      = (d.decodeRow quoted r).map (fun x => x.2) := by
  rw [C13_logical_type_irrelevant_state quoted d l r hr]
  rcases d.decodeRow quoted r with e | ⟨d', ev⟩ <;> rfl

/-- The reader rejects any table above 4096 before allocating it: whatever parser options
    were read from an options row that declares an oversized table, `Decoder.__init__` raises
    `JellyAssertionError`, for every adapter. -/
theorem C13_reader_rejects_oversized (f : Frame) (o : Options) (rest : List Row) (delimited : Bool)
    (opts : ParserOptions) (a : AdapterKind)
    (hf : f.rows = .options o :: rest)
    (ho : optionsFromFrame f delimited = .ok opts)
    (h : 4096 < o.maxNames ∨ 4096 < o.maxPrefixes ∨ 4096 < o.maxDatatypes) :
    DecState.new opts a = .error .jassertion := by
  rw [(optionsFromFrame_inv hf ho).1]
  exact DecState.new_oversized a h

/-- A stream declaring a protocol version above 2 is rejected at its options row: the parser
    options are clamped to version 2 by `options_from_frame`, so the `version >=` assert of
    `validate_stream_options` fails when the decoder meets the row (whatever adapter was picked: `_ha` is not used). -/
theorem C13_reader_rejects_new_version (f : Frame) (o : Options) (rest : List Row) (delimited : Bool)
    (opts : ParserOptions) (a : AdapterKind) (d0 : DecState) (quoted : Bool)
    (hf : f.rows = .options o :: rest) (hv : 2 < o.version)
    (ho : optionsFromFrame f delimited = .ok opts)
    (_ha : adapterFor opts.physical = .ok a)
    (hd : DecState.new opts a = .ok d0) :
    d0.decodeRow quoted (.options o) = .error .assertionError := by
  exact DecState.decodeRow_newer quoted (by rw [(DecState.new_inv hd).1, (optionsFromFrame_inv hf ho).1]) hv

/-- The `(kind, logical type, frame size)` of the flow `Stream.infer_flow` picks, written out. -/
def expectedFlow (cls : StreamClass) (lt : Nat) (delimited : Bool) : FlowKind × Nat × Nat :=
  if delimited then
    match lt with
    | 0 =>
      match cls with
      | .triple => (.flatTriples, 1, 7)
      | .quad => (.flatQuads, 2, 7)
      | .graph => (.flatQuads, 2, 7)
    | 1 => (.flatTriples, 1, 7)
    | 2 => (.flatQuads, 2, 7)
    | 3 => (.graphs, 3, 250)
    | 13 => (.graphs, 13, 250)
    | 4 => (.datasets, 4, 250)
    | 14 => (.datasets, 14, 250)
    | _ => (.datasets, 114, 250)
  else (.manual, lt, 250)

/-- The configuration lattice of `infer_flow`: for every stream class, every declared logical
    type and both framing modes the inferred flow exists and is the tabulated one. Delimited:
    unspecified → the class default flat flow with the class default logical type and the
    requested frame size; 1, 2 → flat flows with the requested frame size; 3, 13 → graphs flow and
    4, 14, 114 → datasets flow, both keeping the declared logical type and ignoring the requested
    frame size (250 = DEFAULT); non-delimited → always the manual flow with the declared type. -/
theorem C13_infer_flow_table :
    ∀ cls ∈ [StreamClass.triple, .quad, .graph], ∀ lt ∈ logicalTypes, ∀ delimited ∈ [true, false],
      (inferFlow cls { logicalType := lt, params := { delimited := delimited }, frameSize := 7 }).map
          (fun f => (f.kind, f.logicalType, f.frameSize))
        = .ok (expectedFlow cls lt delimited) := by
  decide +kernel

end Jelly
