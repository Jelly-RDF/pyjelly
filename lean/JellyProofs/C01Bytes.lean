import JellyModel
import JellyProofs.C01
import JellyProofs.C08
import JellyProofs.WireRoundTrip
import JellyProofs.Lemmas.RowsWireWF
import JellyProofs.Lemmas.ParseBytes
/-!
# C01 / C03 at the BYTE level: statements → bytes → statements, entirely inside the model

Composition of the frames-level round trip (`roundtrip_core`), the wire round trip
(`wire_delimited_roundtrip`, `wire_single_concat`), the framing detection (`C08_hint_*`) and the
options/first-frame search of `getOptionsAndFrames`.
-/
namespace Jelly

/-- The bytes a caller writes for a run: `write_delimited` per frame, or `write_single` per frame. -/
def runBytes (delimited : Bool) (r : Run) : Bytes :=
  r.frames.flatMap fun f => if delimited then writeDelimited f else writeSingle f

/-- Size side condition: every frame (resp. the whole output) encodes to fewer than 2³² bytes. -/
def framesSmall (r : Run) : Prop :=
  (∀ f ∈ r.frames, (encFrame f).length < 2 ^ 32) ∧ (r.frames.flatMap writeSingle).length < 2 ^ 32

theorem run_wfBelow {n : Nat} (hn : n + 2 < depthLimit) (cls : StreamClass) (o : SerOptions) (s : Stream)
    (stmts : List (List Term)) (hs : Stream.new cls o = .ok s) (hp : presetReadable o.preset = true)
    (hl : s.logicalType < 2 ^ 32) (hd : ∀ t ∈ stmts, ∀ x ∈ t, x.depth ≤ n) :
    ∀ f ∈ (streamFrames s (.gen stmts)).frames, (∀ x ∈ f.rows, x.wfBelow n) ∧ f.metadata = [] := by
  obtain ⟨hsm, hrows, ho⟩ := Stream.new_small hs (presetReadable_bounds hp) hl
  exact streamFrames_wfBelow hn s stmts hsm (by rw [hrows]; simp) ho hd

theorem run_wireWF (cls : StreamClass) (o : SerOptions) (s : Stream) (stmts : List (List Term))
    (hs : Stream.new cls o = .ok s) (hp : presetReadable o.preset = true)
    (hl : s.logicalType < 2 ^ 32) (hd : ∀ t ∈ stmts, stmtShallow t = true) :
    ∀ f ∈ (streamFrames s (.gen stmts)).frames, (∀ x ∈ f.rows, x.wireWF = true) ∧ f.metadata = [] := by
  intro f hf
  obtain ⟨h1, h2⟩ := run_wfBelow (n := depthLimit - 3) (by decide) cls o s stmts hs hp hl
    (fun t ht => depth_le_of_stmtShallow (hd t ht)) f hf
  exact ⟨fun x hx => (h1 x hx).1, h2⟩

/-- Every row the writer emits can be carried faithfully by the wire format: ids are bounded by
    the table sizes (≤ 4096 < 2³²), terms sit in legal positions, nesting follows the input. -/
theorem written_rows_wireWF (cls : StreamClass) (o : SerOptions) (s : Stream) (stmts : List (List Term))
    (hs : Stream.new cls o = .ok s) (hp : presetReadable o.preset = true)
    (hl : s.logicalType < 2 ^ 32)
    (hd : ∀ t ∈ stmts, stmtShallow t = true) :
    ∀ f ∈ (streamFrames s (.gen stmts)).frames, ∀ r ∈ f.rows, r.wireWF = true := by
  intro f hf r hr
  exact (run_wireWF cls o s stmts hs hp hl hd f hf).1 r hr

theorem run_writable (cls : StreamClass) (o : SerOptions) (s : Stream) (stmts : List (List Term)) (delimited : Bool)
    (hs : Stream.new cls o = .ok s) (hl : validLogical s.logicalType = true) (hp : presetReadable o.preset = true)
    (hd : ∀ t ∈ stmts, stmtShallow t = true) (hok : (streamFrames s (.gen stmts)).err = none)
    (hsmall : framesSmall (streamFrames s (.gen stmts))) :
    ∃ rows, Writable delimited (streamFrames s (.gen stmts)).frames (wireOptions s) rows := by
  have hw := run_wireWF cls o s stmts hs hp (validLogical_lt_u32 _ hl) hd
  obtain ⟨-, rows, hhead⟩ := streamFrames_rows hs (.gen stmts) hok
  exact ⟨rows, hhead, ⟨fun f hf => (hw f hf).1, fun f hf => (hw f hf).2, hsmall.1⟩, fun _ => hsmall.2⟩

/-- The composition shared by all stream classes and both framings: a run that ended normally and is
    valid for the reference decoder is read back from its bytes. -/
theorem bytes_core (cls : StreamClass) (o : SerOptions) (s : Stream) (stmts : List (List Term))
    (evs : List Event)
    (hs : Stream.new cls o = .ok s) (hl : validLogical s.logicalType = true)
    (hp : presetReadable o.preset = true) (hd : ∀ t ∈ stmts, stmtShallow t = true)
    (hsmall : framesSmall (streamFrames s (.gen stmts)))
    (herr : (streamFrames s (.gen stmts)).err = none)
    (hspec : ∃ st, Spec.runRows (streamFrames s (.gen stmts)).allRows' = (st, evs, none))
    (delimited : Bool) :
    parseFlat .seekable (runBytes delimited (streamFrames s (.gen stmts))) false true
      = { events := evs, err := none } := by
  obtain ⟨rows, hw⟩ := run_writable cls o s stmts delimited hs hl hp hd herr hsmall
  exact parseFlat_of_frames hw (roundtrip_core o cls s _ evs hs hp herr hspec delimited).2.2

theorem bytes_roundtrip (cls : StreamClass) (o : SerOptions) (s : Stream) (stmts : List (List Term))
    (delimited : Bool) (hs : Stream.new cls o = .ok s) (hl : validLogical s.logicalType = true)
    (hp : presetReadable o.preset = true)
    (hwf : ∀ t ∈ stmts, cls.stmtWF t = true) (hfit : ∀ t ∈ stmts, stmtFits o.preset t = true)
    (hd : ∀ t ∈ stmts, stmtShallow t = true)
    (hsmall : framesSmall (streamFrames s (.gen stmts))) :
    parseFlat .seekable (runBytes delimited (streamFrames s (.gen stmts))) false true
      = { events := stmts.map (fun t => Event.stmt (t.map Term.norm)), err := none } :=
  have h := stream_sim cls o s (.gen stmts) hs hl (fun _ h => nomatch h) hwf hfit
  bytes_core cls o s stmts _ hs hl hp hd hsmall h.1 h.2 delimited

/-- TRIPLES, delimited output: the flat parser, given the bytes, returns exactly the input. -/
theorem C01_triples_bytes_delimited (o : SerOptions) (s : Stream) (stmts : List (List Term))
    (hs : Stream.new .triple o = .ok s) (hl : validLogical s.logicalType = true)
    (hp : presetReadable o.preset = true)
    (hwf : ∀ t ∈ stmts, tripleWF t = true) (hfit : ∀ t ∈ stmts, stmtFits o.preset t = true)
    (hd : ∀ t ∈ stmts, stmtShallow t = true)
    (hsmall : framesSmall (streamFrames s (.gen stmts))) :
    parseFlat .seekable (runBytes true (streamFrames s (.gen stmts))) false true
      = { events := stmts.map (fun t => Event.stmt (t.map Term.norm)), err := none } :=
  bytes_roundtrip .triple o s stmts true hs hl hp hwf hfit hd hsmall

/-- TRIPLES, non-delimited output (all frames written bare, one after the other: they merge into one
    frame on read). -/
theorem C01_triples_bytes_single (o : SerOptions) (s : Stream) (stmts : List (List Term))
    (hs : Stream.new .triple o = .ok s) (hl : validLogical s.logicalType = true)
    (hp : presetReadable o.preset = true)
    (hwf : ∀ t ∈ stmts, tripleWF t = true) (hfit : ∀ t ∈ stmts, stmtFits o.preset t = true)
    (hd : ∀ t ∈ stmts, stmtShallow t = true)
    (hsmall : framesSmall (streamFrames s (.gen stmts))) :
    parseFlat .seekable (runBytes false (streamFrames s (.gen stmts))) false true
      = { events := stmts.map (fun t => Event.stmt (t.map Term.norm)), err := none } :=
  bytes_roundtrip .triple o s stmts false hs hl hp hwf hfit hd hsmall

/-- QUADS and GRAPHS physical types, both framings. -/
theorem C01_quads_bytes (o : SerOptions) (s : Stream) (stmts : List (List Term)) (delimited : Bool)
    (hs : Stream.new .quad o = .ok s) (hl : validLogical s.logicalType = true)
    (hp : presetReadable o.preset = true)
    (hwf : ∀ t ∈ stmts, quadWF t = true) (hfit : ∀ t ∈ stmts, stmtFits o.preset t = true)
    (hd : ∀ t ∈ stmts, stmtShallow t = true)
    (hsmall : framesSmall (streamFrames s (.gen stmts))) :
    parseFlat .seekable (runBytes delimited (streamFrames s (.gen stmts))) false true
      = { events := stmts.map (fun t => Event.stmt (t.map Term.norm)), err := none } :=
  bytes_roundtrip .quad o s stmts delimited hs hl hp hwf hfit hd hsmall

theorem C01_graphs_bytes (o : SerOptions) (s : Stream) (stmts : List (List Term)) (delimited : Bool)
    (hs : Stream.new .graph o = .ok s) (hl : validLogical s.logicalType = true)
    (hp : presetReadable o.preset = true)
    (hwf : ∀ t ∈ stmts, quadWF t = true) (hfit : ∀ t ∈ stmts, stmtFits o.preset t = true)
    (hd : ∀ t ∈ stmts, stmtShallow t = true)
    (hsmall : framesSmall (streamFrames s (.gen stmts))) :
    parseFlat .seekable (runBytes delimited (streamFrames s (.gen stmts))) false true
      = { events := stmts.map (fun t => Event.stmt (t.map Term.norm)), err := none } :=
  bytes_roundtrip .graph o s stmts delimited hs hl hp hwf hfit hd hsmall

/-- C03 at the byte level: an independent consumer that splits the bytes into frames with the wire
    parser and applies the format rules gets exactly the input. -/
theorem C03_bytes_delimited (cls : StreamClass) (o : SerOptions) (s : Stream) (stmts : List (List Term))
    (hs : Stream.new cls o = .ok s) (hl : validLogical s.logicalType = true)
    (hp : presetReadable o.preset = true)
    (hwf : ∀ t ∈ stmts, (if cls = .triple then tripleWF t else quadWF t) = true)
    (hfit : ∀ t ∈ stmts, stmtFits o.preset t = true)
    (hd : ∀ t ∈ stmts, stmtShallow t = true)
    (hsmall : framesSmall (streamFrames s (.gen stmts))) :
    ∃ frames st,
      restFrames ((runBytes true (streamFrames s (.gen stmts))).length + 1)
          (runBytes true (streamFrames s (.gen stmts))) []
        = (frames, none) ∧
      Spec.runRows (frames.flatMap (·.rows)) = (st, stmts.map (fun t => Event.stmt (t.map Term.norm)), none) := by
  obtain ⟨herr, st, hst⟩ : (streamFrames s (.gen stmts)).err = none ∧
      ∃ st, Spec.runRows (Run.allRows' (streamFrames s (.gen stmts)))
        = (st, stmts.map (fun t => Event.stmt (t.map Term.norm)), none) :=
    stream_sim cls o s (.gen stmts) hs hl (fun _ h => nomatch h)
      (fun t ht => by cases cls <;> simpa [StreamClass.stmtWF] using hwf t ht) hfit
  obtain ⟨_, hw⟩ := run_writable cls o s stmts true hs hl hp hd herr hsmall
  refine ⟨(streamFrames s (.gen stmts)).frames, st, ?_, ?_⟩
  · exact wire_delimited_roundtrip _ hw.enc.1 hw.enc.2.1 hw.enc.2.2
  · rw [← hst, (streamFrames_rows hs (.gen stmts) herr).1]

end Jelly
