import JellyProofs.Lemmas.NoNamespaceRows
import JellyProofs.Lemmas.ExecRdflib
import JellyProofs.Lemmas.DecodeFrame
/-!
# C15 — all parsing entry points and both integrations agree
# C14 — namespace declarations (the parts that do not need the writer/reader simulation)
# C02 — the rdflib serializer loops coincide with the generic ones on corresponding input

Modelling note: the rdflib adapter is the generic adapter composed with an injective renaming of
terms (IRI ↦ URIRef, …, DefaultGraph ↦ the default graph id); the shared `Decoder` never inspects an
adapter result, so in the model both integrations produce the same `Term`s and differ only in
`quoted` (the rdflib adapter has no `quoted_triple`).
-/
namespace Jelly

/-- `parse_jelly_to_graph` holds exactly the items of `parse_jelly_flat`. -/
theorem C15_to_graph_eq_flat (kind : SourceKind) (b : Bytes) (quoted : Bool) :
    parseToGraph kind b quoted =
      (match (parseFlat kind b false quoted).err with
       | some e => .error e
       | none => .ok (sinkOfEvents (parseFlat kind b false quoted).events)) := by
  rfl

/-- Cross-integration, row level: on rows without quoted triples the decoder behaves the same
    whether or not the adapter supports quoted triples — same events, same state, same errors. -/
theorem C15_integrations_agree_row (d : DecState) (r : Row) (h : r.noQuoted = true) :
    d.decodeRow false r = d.decodeRow true r := by
  cases r with
  | triple s p o =>
    simp only [Row.noQuoted, Bool.and_eq_true] at h
    obtain ⟨⟨hs, hp⟩, ho⟩ := h
    rw [DecState.decodeRow_triple, DecState.decodeRow_triple, decodeSpo_flat d s p o hs hp ho]
  | quad s p o g =>
    simp only [Row.noQuoted, Bool.and_eq_true] at h
    obtain ⟨⟨⟨hs, hp⟩, ho⟩, hg⟩ := h
    rw [DecState.decodeRow_quad, DecState.decodeRow_quad, decodeSpo_flat d s p o hs hp ho]
    simp only [decodeSlot_flat _ _ g hg]
  | graphStart g =>
    cases g with
    | none => rfl
    | some t =>
      rw [DecState.decodeRow_graphStart, DecState.decodeRow_graphStart,
        decodeTerm_flat d t h]
  | _ => rfl

theorem C15_integrations_agree_rows (d : DecState) (rows : List Row) (acc : List Event)
    (h : ∀ r ∈ rows, r.noQuoted = true) :
    d.decodeRows false rows acc = d.decodeRows true rows acc := by
  fun_induction DecState.decodeRows true d rows acc with
  | case1 d acc => rfl  -- no row left
  | case2 d r rs acc e he =>  -- the row raised
    rw [DecState.decodeRows, C15_integrations_agree_row d r (h r List.mem_cons_self), he]
  | case3 d r rs acc d' ev he ih =>  -- the row decoded
    rw [DecState.decodeRows, C15_integrations_agree_row d r (h r List.mem_cons_self), he]
    exact ih fun r' hr' => h r' (List.mem_cons_of_mem _ hr')

/-- Cross-integration, frame level: on any list of frames that carry no quoted triple, decoding
    without quoted-triple support (the rdflib adapter) equals decoding with it (the generic one). -/
theorem C15_integrations_agree_frames (d : DecState) (frames : List Frame)
    (h : ∀ f ∈ frames, ∀ r ∈ f.rows, r.noQuoted = true) :
    decodeFrames false d frames [] = decodeFrames true d frames [] := by
  suffices H : ∀ acc, decodeFrames false d frames acc = decodeFrames true d frames acc from H []
  intro acc
  fun_induction decodeFrames true d frames acc with
  | case1 d acc => rfl  -- no frame left
  | case2 d f fs acc d' evs e he =>  -- a row of the frame raised
    rw [decodeFrames, C15_integrations_agree_rows d f.rows [] (h f List.mem_cons_self), he]
  | case3 d f fs acc d' evs he ih =>  -- the frame decoded
    rw [decodeFrames, C15_integrations_agree_rows d f.rows [] (h f List.mem_cons_self), he]
    exact ih fun f' hf' => h f' (List.mem_cons_of_mem _ hf')

/-- Serializers: fed with a plain statement generator (not a Graph/Dataset), the rdflib loops
    are the generic loops — so both integrations produce the same frames for corresponding data. -/
theorem C15_serializers_agree_triples (s : Stream) (stmts : List (List Term)) :
    triplesStreamFramesR s false [] [stmts] = triplesStreamFrames s (.gen stmts) := by
  rw [triplesStreamFramesR_exec]
  refine (Eq.trans ?_ (framesWith_exec .triple s (.gen stmts)).symm)
  simp [prologueCmdsR, triplesGraphsCmds, streamCmds, prologueCmds, SerData.decls, nsCmds, classCmds, classFromDataset,
    epiKind, SerData.stmts]

theorem C15_serializers_agree_quads (s : Stream) (stmts : List (List Term)) :
    quadsStreamFramesR s false [] stmts = quadsStreamFrames s (.gen stmts) := by
  rw [quadsStreamFramesR_exec]
  exact (framesWith_exec .quad s (.gen stmts)).symm

/-- With the option off no namespace row is ever written — by any stream class, for sink or
    generator input, whatever the sink's bindings. -/
theorem C14_no_namespace_rows_when_off (s : Stream) (d : SerData)
    (hoff : s.opts.params.namespaceDeclarations = false)
    (hflow : ∀ r ∈ s.flow.rows, r.isNamespace = false) :
    (∀ f ∈ (streamFrames s d).frames, ∀ r ∈ f.rows, r.isNamespace = false) ∧
    (∀ r ∈ (streamFrames s d).stream.flow.rows, r.isNamespace = false) := by
  have hc := streamFrames_clean s d hoff hflow
  exact ⟨fun f hf r hr => hc r (List.mem_append.2 (.inl (List.mem_flatMap.2 ⟨f, hf, hr⟩))),
    fun r hr => hc r (List.mem_append.2 (.inr hr))⟩

/-- Namespace rows only appear in version-2 streams: the header of a stream declares version 2
    exactly when declarations are enabled (so, with `C14_no_namespace_rows_when_off`, a version-1 stream has no
    namespace row). -/
theorem C14_version_two_iff_enabled (cls : StreamClass) (o : SerOptions) (s : Stream)
    (hs : Stream.new cls o = .ok s) :
    (∃ op, s.optionsRow = .options op ∧ (op.version = 2 ↔ o.params.namespaceDeclarations = true) ∧
      (op.version = 1 ↔ o.params.namespaceDeclarations = false)) := by
  obtain ⟨_, _, ho, _⟩ := Stream.new_spec hs
  refine ⟨_, rfl, ?_, ?_⟩ <;> simp only [ho, Params.version] <;> cases o.params.namespaceDeclarations <;> simp

/-- (b, writer side) A sink without bindings is written exactly like the bare statement sequence,
    whether the option is on or off (declarations are the only thing the option adds). -/
theorem C14_no_bindings_same_rows (s : Stream) (sk : Sink) (hns : sk.namespaces = []) :
    (streamFrames s (.sink sk)).frames = (streamFrames s (.gen sk.store)).frames ∧
    (streamFrames s (.sink sk)).err = (streamFrames s (.gen sk.store)).err := by
  rw [streamFrames_sink_eq_gen s sk (by simp [prologueCmds, SerData.decls, hns, nsCmds])]
  exact ⟨rfl, rfl⟩

/-- (a, reader side) A namespace row is decoded to a `Prefix` event carrying the resolved IRI and
    the name unchanged; it never touches the repeated terms or the open graph. -/
theorem C14_namespace_row_decoding (quoted : Bool) (d d' : DecState) (name : String) (iri : Option (Nat × Nat))
    (ev : Option Event) (h : d.decodeRow quoted (.namespace name iri) = .ok (d', ev)) :
    (∃ s, ev = some (.ns name (.iri s))) ∧ d'.rep = d.rep ∧ d'.graphId = d.graphId ∧ d'.datatypes = d.datatypes := by
  rw [DecState.decodeRow_namespace] at h
  obtain ⟨⟨d1, s⟩, hi, h⟩ := Except.bind_eq_ok.1 h
  cases h
  rw [DecState.decodeIri_inv hi]
  exact ⟨⟨_, rfl⟩, rfl, rfl, rfl⟩

def quadsOfGraphs (gs : List (Term × List (List Term))) : List (List Term) :=
  gs.flatMap fun (g, ts) => ts.map fun t => t ++ [g]

/-- A `GraphStream` fed graph by graph (rdflib `Dataset.graphs()`) writes what the generic
    `graphs_stream_frames` writes for the same quads listed graph after graph, provided consecutive
    graphs have different names and none is empty (which is how `split_to_graphs` regroups them). -/
theorem C02_graphs_loops_agree (s : Stream) (gs : List (Term × List (List Term)))
    (h : graphsWellSplit gs = true) :
    graphsStreamFramesR s false [] gs = graphsStreamFrames s (.gen (quadsOfGraphs gs)) := by
  rw [graphsStreamFramesR_exec, ← graphsCmds_none gs h]
  exact (framesWith_exec .graph s (.gen (quadsOfGraphs gs))).symm

end Jelly
