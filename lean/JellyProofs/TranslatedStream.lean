import JellyGenerated.StreamGen
import JellyProofs.TranslatedStmt
import JellyProofs.TranslatedFlows
import JellyProofs.Lemmas.SerRows
/-!
# The TRANSLATED statement methods of the writer's streams equal the model

`JellyGenerated/StreamGen.lean` is produced from `TripleStream.triple`, `QuadStream.quad`, `Stream.enroll`,
`GraphStream.graph` (with its loop over the triples) and `Stream.namespace_declaration`
(`pyjelly/serialize/streams.py`) by `harness/gen_translate_stream.py` on every run. They join the other translations:
every row the translated `encode_triple` / `encode_quad` / `encode_namespace_declaration` returns is appended to the
flow (C06: nothing is dropped between the encoder and the flow; C14), the flow is asked for a frame after every
statement and after a graph (C07 / C11: the translated `frame_from_bounds` of the flow's class), and the options row
is pushed exactly once, before anything else (C13).
-/
namespace Jelly.Translated
open Jelly Jelly.Py

@[py_exec ↓] theorem exec_flowExtend (rows : List Row) (f : Flow) :
    (flowExtend rows).exec f = (.ok (), { f with rows := f.rows ++ rows }) := (rfl)
@[py_exec ↓] theorem exec_yieldFrame (fr : Frame) (s : Stream × List Frame) :
    (yieldFrame fr).exec s = (.ok (), (s.1, s.2 ++ [fr])) := (rfl)
@[py_exec ↓] theorem exec_onStream {α : Type} (m : M Stream α) (s : Stream × List Frame) :
    (onStream m).exec s = ((m.exec s.1).1, ((m.exec s.1).2, s.2)) := (rfl)

/-- `if frame is not None: yield frame` as a statement of its own: the frames so far, and this one if there is one -/
@[py_exec ↓ high] theorem exec_yieldSome (o : Option Frame) (s : Stream × List Frame) :
    (do if o.isSome then yieldFrame (← liftE (optGet o)) : M (Stream × List Frame) PUnit).exec s
      = (.ok ⟨⟩, (s.1, s.2 ++ o.toList)) := by
  cases o
  · simp only [py_exec, ↓reduceIte, Option.isSome, Option.toList, List.append_nil]
  · rfl

/-- `TripleStream.triple`, for every per-term encoder like the model's and every `frame_from_bounds` that agrees with
    the model on flows of this stream's flow class -/
theorem stream_triple_eq (enc encG : Term → M TermEnc (List Row × WTerm)) (henc : EncLike enc TermEnc.spo)
    (exc : PyErr) (ffb : M Flow (Option Frame)) (s : Stream)
    (hffb : ∀ f : Flow, f.kind = s.flow.kind → FlowAgrees ffb Flow.frameFromBounds f) (terms : List Term) :
    swap ((Gen.TripleStream.triple enc encG exc ffb terms).exec s) = s.triple exc terms := by
  unfold Gen.TripleStream.triple Stream.triple
  simp only [py_exec, swap_exec (encode_triple_eq enc encG henc exc s.enc terms)]
  rcases encodeTriple exc s.enc terms with ⟨enc', _ | rows⟩
  · rfl
  · simp only [py_exec, Stream.pushRows]
    rw [show ffb.exec { s.flow with rows := s.flow.rows ++ rows } = _ from hffb _ rfl]; rfl

theorem stream_quad_eq (enc encG : Term → M TermEnc (List Row × WTerm)) (henc : EncLike enc TermEnc.spo)
    (hencG : EncLike encG TermEnc.graph) (exc : PyErr) (ffb : M Flow (Option Frame)) (s : Stream)
    (hffb : ∀ f : Flow, f.kind = s.flow.kind → FlowAgrees ffb Flow.frameFromBounds f) (terms : List Term) :
    swap ((Gen.QuadStream.quad enc encG exc ffb terms).exec s) = s.quad exc terms := by
  unfold Gen.QuadStream.quad Stream.quad
  simp only [py_exec, swap_exec (encode_quad_eq enc encG henc hencG exc s.enc terms)]
  rcases encodeQuad exc s.enc terms with ⟨enc', _ | rows⟩
  · rfl
  · simp only [py_exec, Stream.pushRows]
    rw [show ffb.exec { s.flow with rows := s.flow.rows ++ rows } = _ from hffb _ rfl]; rfl

/-- `Stream.enroll`: the options row is pushed once, the first time -/
theorem stream_enroll_eq (s : Stream) :
    (Gen.Stream.enroll s.optionsRow).exec s = (.ok (), s.enroll) := by
  unfold Gen.Stream.enroll Gen.Stream.stream_options Stream.enroll
  cases h : s.enrolled <;> simp only [py_exec, ↓reduceIte, h, Stream.pushRows] <;> rfl

/-- the dynamic dispatch `self.flow.frame_from_bounds()` resolved: the translated method of a flow class is a legitimate
    `ffb` for a stream whose flow is of that class — stated for the classes a stream of each kind is given (four for
    `TripleStream`, three for `QuadStream`; for `GraphStream` further down) -/
theorem stream_triple_flatTriples (enc encG : Term → M TermEnc (List Row × WTerm)) (henc : EncLike enc TermEnc.spo)
    (exc : PyErr) (s : Stream) (hk : s.flow.kind = .flatTriples) (terms : List Term) :
    swap ((Gen.TripleStream.triple enc encG exc Gen.FlatTriplesFrameFlow.frame_from_bounds terms).exec s)
      = s.triple exc terms :=
  stream_triple_eq enc encG henc exc _ s (fun f hf => flatTriples_frame_from_bounds f (hf.trans hk)) terms

theorem stream_triple_manual (enc encG : Term → M TermEnc (List Row × WTerm)) (henc : EncLike enc TermEnc.spo)
    (exc : PyErr) (s : Stream) (hk : s.flow.kind = .manual) (terms : List Term) :
    swap ((Gen.TripleStream.triple enc encG exc Gen.ManualFrameFlow.frame_from_bounds terms).exec s)
      = s.triple exc terms :=
  stream_triple_eq enc encG henc exc _ s (fun f hf => manual_frame_from_bounds f (hf.trans hk)) terms

theorem stream_triple_bounded (enc encG : Term → M TermEnc (List Row × WTerm)) (henc : EncLike enc TermEnc.spo)
    (exc : PyErr) (s : Stream) (hk : s.flow.kind = .bounded) (terms : List Term) :
    swap ((Gen.TripleStream.triple enc encG exc Gen.BoundedFrameFlow.frame_from_bounds terms).exec s)
      = s.triple exc terms :=
  stream_triple_eq enc encG henc exc _ s (fun f hf => bounded_frame_from_bounds f (hf.trans hk)) terms

theorem stream_triple_graphs (enc encG : Term → M TermEnc (List Row × WTerm)) (henc : EncLike enc TermEnc.spo)
    (exc : PyErr) (s : Stream) (hk : s.flow.kind = .graphs) (terms : List Term) :
    swap ((Gen.TripleStream.triple enc encG exc Gen.GraphsFrameFlow.frame_from_bounds terms).exec s)
      = s.triple exc terms :=
  stream_triple_eq enc encG henc exc _ s (fun f hf => graphs_frame_from_bounds f (hf.trans hk)) terms

theorem stream_quad_flatQuads (enc encG : Term → M TermEnc (List Row × WTerm)) (henc : EncLike enc TermEnc.spo)
    (hencG : EncLike encG TermEnc.graph) (exc : PyErr) (s : Stream) (hk : s.flow.kind = .flatQuads)
    (terms : List Term) :
    swap ((Gen.QuadStream.quad enc encG exc Gen.FlatQuadsFrameFlow.frame_from_bounds terms).exec s)
      = s.quad exc terms :=
  stream_quad_eq enc encG henc hencG exc _ s (fun f hf => flatQuads_frame_from_bounds f (hf.trans hk)) terms

theorem stream_quad_manual (enc encG : Term → M TermEnc (List Row × WTerm)) (henc : EncLike enc TermEnc.spo)
    (hencG : EncLike encG TermEnc.graph) (exc : PyErr) (s : Stream) (hk : s.flow.kind = .manual) (terms : List Term) :
    swap ((Gen.QuadStream.quad enc encG exc Gen.ManualFrameFlow.frame_from_bounds terms).exec s) = s.quad exc terms :=
  stream_quad_eq enc encG henc hencG exc _ s (fun f hf => manual_frame_from_bounds f (hf.trans hk)) terms

theorem stream_quad_datasets (enc encG : Term → M TermEnc (List Row × WTerm)) (henc : EncLike enc TermEnc.spo)
    (hencG : EncLike encG TermEnc.graph) (exc : PyErr) (s : Stream) (hk : s.flow.kind = .datasets) (terms : List Term) :
    swap ((Gen.QuadStream.quad enc encG exc Gen.DatasetsFrameFlow.frame_from_bounds terms).exec s) = s.quad exc terms :=
  stream_quad_eq enc encG henc hencG exc _ s (fun f hf => datasets_frame_from_bounds f (hf.trans hk)) terms

/-- `Stream.namespace_declaration`: the rows of the translated `encode_namespace_declaration` all reach the flow;
    nothing else of the stream changes (C14) -/
theorem stream_namespace_declaration_eq (s : Stream) (name iri : String)
    (hp : s.enc.te.prefixes.lookup.evicting = true → s.enc.te.prefixes.lookup.data ≠ [])
    (hn : s.enc.te.names.lookup.evicting = true → s.enc.te.names.lookup.data ≠ []) :
    swap ((Gen.Stream.namespace_declaration name iri).exec s) = s.namespaceDeclaration name iri := by
  unfold Gen.Stream.namespace_declaration Stream.namespaceDeclaration
  simp only [py_exec, swap_exec (encode_namespace_declaration_eq s.enc.te name iri hp hn)]
  rcases encodeNamespace s.enc.te name iri with ⟨te', _ | rows⟩ <;> rfl

theorem stream_triple_kind {exc : PyErr} {s : Stream} {t : List Term} {r : Stream × Except PyErr (Option Frame)}
    (h : s.triple exc t = r) : r.1.flow.kind = s.flow.kind :=
  h ▸ ((Stream.triple_good exc).keeps s t).kind

/-- the loop over the triples of a graph: frames yielded before a refusal are kept -/
theorem graph_loop_eq (enc encG : Term → M TermEnc (List Row × WTerm)) (henc : EncLike enc TermEnc.spo)
    (exc : PyErr) (ffb : M Flow (Option Frame)) (k : FlowKind)
    (hffb : ∀ f : Flow, f.kind = k → FlowAgrees ffb Flow.frameFromBounds f) :
    ∀ (ts : List (List Term)) (s : Stream) (acc : List Frame), s.flow.kind = k →
      (Gen.GraphStream.graph__loop enc encG exc ffb ts).exec (s, acc)
        = match Stream.graphTriples exc s ts acc with
          | (s', fr, none) => (.ok (), (s', fr))
          | (s', fr, some e) => (.error e, (s', fr)) := by
  intro ts
  induction ts with
  | nil => intro s acc _; rfl
  | cons t ts ih =>
    intro s acc hk
    simp only [Gen.GraphStream.graph__loop, Stream.graphTriples, py_exec,
      swap_exec (stream_triple_eq enc encG henc exc ffb s (fun f hf => hffb f (hf.trans hk)) t)]
    rcases ht : s.triple exc t with ⟨s', _ | _ | f⟩
    · rfl
    · simp only [py_exec, ↓reduceIte, Option.isSome, Option.toList, List.append_nil]
      exact ih s' _ ((stream_triple_kind ht).trans hk)
    · simp only [py_exec, ↓reduceIte, Option.isSome, Option.toList, optGet]
      exact ih s' _ ((stream_triple_kind ht).trans hk)

theorem graphTriples_kind {exc : PyErr} {ts : List (List Term)} {s : Stream} {acc : List Frame}
    {r : Stream × List Frame × Option PyErr} (h : Stream.graphTriples exc s ts acc = r) :
    r.1.flow.kind = s.flow.kind := by
  subst h
  rw [Stream.graphTriples_stmtLoop, Stream.triple_stepOf, stmtLoop_exec]
  exact (Run.exec_flat _ _).keeps.kind

/-- `GraphStream.graph`, consumed to exhaustion: the graph-start row after its entries, every triple through
    `TripleStream.triple`, the graph-end row, and a frame whenever the flow's `frame_from_bounds` gives one; the
    frames yielded before a refusal are kept. Equal to the model's `Stream.graph`, stream state and frame list
    included. -/
theorem stream_graph_eq (enc encG : Term → M TermEnc (List Row × WTerm)) (henc : EncLike enc TermEnc.spo)
    (hencG : EncLike encG TermEnc.graph) (exc : PyErr) (ffb : M Flow (Option Frame)) (s : Stream)
    (hffb : ∀ f : Flow, f.kind = s.flow.kind → FlowAgrees ffb Flow.frameFromBounds f)
    (gid : Term) (triples : List (List Term)) :
    (Gen.GraphStream.graph enc encG exc ffb gid triples).exec (s, [])
      = match s.graph exc gid triples with
        | (s', fr, none) => (.ok (), (s', fr))
        | (s', fr, some e) => (.error e, (s', fr)) := by
  unfold Gen.GraphStream.graph Stream.graph
  simp only [py_exec]
  cases hb : s.enc.te.beginRow with
  | error e => rfl
  | ok te0 =>
    simp only [py_exec, hencG.exec]
    rcases te0.graph gid with ⟨te', _ | ⟨rows, w⟩⟩
    · rfl
    simp only [py_exec, Stream.pushRows]
    rw [graph_loop_eq enc encG henc exc ffb s.flow.kind hffb triples]
    · rcases hgt : Stream.graphTriples exc _ triples [] with ⟨s2, frames, _ | e⟩
      · simp only [py_exec]
        rw [show ffb.exec { s2.flow with rows := s2.flow.rows ++ [Row.graphEnd] } = _ from
          hffb _ (graphTriples_kind hgt)]
        simp only [py_exec]
      · rfl
    · rfl

/-- the dispatch resolved for the flow classes a GraphStream is given: grouped (one frame per graph is cut by the
    caller), flat quads (the delimited default) and manual -/
theorem stream_graph_flatQuads (enc encG : Term → M TermEnc (List Row × WTerm)) (henc : EncLike enc TermEnc.spo)
    (hencG : EncLike encG TermEnc.graph) (exc : PyErr) (s : Stream) (hk : s.flow.kind = .flatQuads)
    (gid : Term) (triples : List (List Term)) :
    (Gen.GraphStream.graph enc encG exc Gen.FlatQuadsFrameFlow.frame_from_bounds gid triples).exec (s, [])
      = match s.graph exc gid triples with
        | (s', fr, none) => (.ok (), (s', fr))
        | (s', fr, some e) => (.error e, (s', fr)) :=
  stream_graph_eq enc encG henc hencG exc _ s (fun f hf => flatQuads_frame_from_bounds f (hf.trans hk)) gid triples

theorem stream_graph_graphs (enc encG : Term → M TermEnc (List Row × WTerm)) (henc : EncLike enc TermEnc.spo)
    (hencG : EncLike encG TermEnc.graph) (exc : PyErr) (s : Stream) (hk : s.flow.kind = .graphs)
    (gid : Term) (triples : List (List Term)) :
    (Gen.GraphStream.graph enc encG exc Gen.GraphsFrameFlow.frame_from_bounds gid triples).exec (s, [])
      = match s.graph exc gid triples with
        | (s', fr, none) => (.ok (), (s', fr))
        | (s', fr, some e) => (.error e, (s', fr)) :=
  stream_graph_eq enc encG henc hencG exc _ s (fun f hf => graphs_frame_from_bounds f (hf.trans hk)) gid triples

theorem stream_graph_manual (enc encG : Term → M TermEnc (List Row × WTerm)) (henc : EncLike enc TermEnc.spo)
    (hencG : EncLike encG TermEnc.graph) (exc : PyErr) (s : Stream) (hk : s.flow.kind = .manual)
    (gid : Term) (triples : List (List Term)) :
    (Gen.GraphStream.graph enc encG exc Gen.ManualFrameFlow.frame_from_bounds gid triples).exec (s, [])
      = match s.graph exc gid triples with
        | (s', fr, none) => (.ok (), (s', fr))
        | (s', fr, some e) => (.error e, (s', fr)) :=
  stream_graph_eq enc encG henc hencG exc _ s (fun f hf => manual_frame_from_bounds f (hf.trans hk)) gid triples

end Jelly.Translated
