import JellyModel
import JellyProofs.C03
import JellyProofs.C01Bytes
import JellyProofs.Lemmas.StreamSim
import JellyProofs.Lemmas.ExecRdflib
import JellyProofs.C13
/-!
# C02 — the rdflib loops: a Dataset written graph by graph (GraphStream) or a Graph/Dataset written
# through a TripleStream is valid and denotes its statements
# C13 — header fidelity at the byte level
-/
namespace Jelly

/-- `Dataset.graphs()` as the model sees it: any list of (graph name, triples) — names need not be
    distinct from their neighbours and graphs may be empty (rdflib yields the default graph even when
    it is empty). -/
def graphsWF (gs : List (Term × List (List Term))) : Bool :=
  gs.all fun (g, ts) => g.WFGraph && ts.all tripleWF

def graphsFit (p : Preset) (gs : List (Term × List (List Term))) : Bool :=
  gs.all fun (g, ts) => stmtFits p [g] && ts.all (stmtFits p)

/-- The quads a reader must deliver for a dataset enumerated graph by graph. -/
def graphsEvents (gs : List (Term × List (List Term))) : List Event :=
  gs.flatMap fun (g, ts) => ts.map fun t => Event.stmt ((t ++ [g]).map Term.norm)

/-- GRAPHS physical type fed graph by graph (rdflib `graphs_stream_frames` over `Dataset.graphs()`),
    no namespace declarations: valid, and denotes every triple of every graph under its graph name, in
    enumeration order. Holds for EVERY enumeration order (the theorem quantifies over the list), which
    is why the rdflib round trip is a statement about sets. -/
theorem C02_graphs_dataset (o : SerOptions) (s : Stream) (gs : List (Term × List (List Term)))
    (hs : Stream.new .graph o = .ok s) (hl : validLogical s.logicalType = true)
    (hwf : graphsWF gs = true) (hfit : graphsFit o.preset gs = true) :
    (graphsStreamFramesR s false [] gs).err = none ∧
    ∃ st, Spec.runRows (graphsStreamFramesR s false [] gs).allRows' = (st, graphsEvents gs, none) := by
  have hv := (Stream.new_spec hs).valid
  simp only [graphsWF, graphsFit, List.all_eq_true, Bool.and_eq_true] at hwf hfit
  rw [graphsStreamFramesR_exec]
  exact exec_fresh_sim hs hl _
    (((graphsCmdsR_follows hv (wireOptions_physical hs) gs fun x hx => hwf x hx).mono_pre fun _ _ h => h.1).then_cuts
      (RunsToN.isSeg False) [.dataset, .all])
    fun x hx => ⟨.of_stmtFits hv (hfit x hx).1, fun t ht => .of_stmtFits hv ((hfit x hx).2 t ht)⟩

/-- TRIPLES physical type fed with several graphs (rdflib `triples_stream_frames` over a Dataset: all
    triples of all graphs, a frame offered after each graph). -/
theorem C02_triples_dataset (o : SerOptions) (s : Stream) (graphs : List (List (List Term)))
    (hs : Stream.new .triple o = .ok s) (hl : validLogical s.logicalType = true)
    (hwf : ∀ g ∈ graphs, ∀ t ∈ g, tripleWF t = true) (hfit : ∀ g ∈ graphs, ∀ t ∈ g, stmtFits o.preset t = true) :
    (triplesStreamFramesR s false [] graphs).err = none ∧
    ∃ st, Spec.runRows (triplesStreamFramesR s false [] graphs).allRows'
            = (st, graphs.flatten.map (fun t => Event.stmt (t.map Term.norm)), none) := by
  have hv := (Stream.new_spec hs).valid
  rw [triplesStreamFramesR_exec]
  exact exec_fresh_sim hs hl _
    (((triplesGraphsCmds_follows hv (wireOptions_physical hs) graphs hwf).mono_pre fun _ _ h => h.1).then_cuts
      (RunsToN.isSeg False) [.all])
    fun g hg t ht => .of_stmtFits hv (hfit g hg t ht)

theorem run_opened (cls : StreamClass) (o : SerOptions) (s : Stream) (stmts : List (List Term))
    (delimited : Bool) (hs : Stream.new cls o = .ok s) (hl : validLogical s.logicalType = true)
    (hp : presetReadable o.preset = true)
    (hd : ∀ t ∈ stmts, stmtShallow t = true)
    (hok : (streamFrames s (.gen stmts)).err = none)
    (hsmall : framesSmall (streamFrames s (.gen stmts))) (opts : ParserOptions)
    (ho : ∀ rest, optionsFromFrame { rows := s.optionsRow :: rest } delimited = .ok opts) :
    ∃ opened, getOptionsAndFrames .seekable (runBytes delimited (streamFrames s (.gen stmts))) = .ok opened ∧
      opened.opts = opts ∧
      opened.frames = (framesRead delimited (streamFrames s (.gen stmts)).frames, none) := by
  obtain ⟨rows, hw⟩ := run_writable cls o s stmts delimited hs hl hp hd hok hsmall
  exact opened_of_frames hw (ho rows)

/-- DESIGN.md §6 C13 (a) at the byte level: the options a reader extracts from the bytes of a run are the options
    the stream was written with (physical/logical type, sizes, name, flags, version), and the framing
    mode is detected as written. -/
theorem C13_header_fidelity_bytes (cls : StreamClass) (o : SerOptions) (s : Stream) (stmts : List (List Term))
    (delimited : Bool) (hs : Stream.new cls o = .ok s) (hl : validLogical s.logicalType = true)
    (hp : presetReadable o.preset = true)
    (hd : ∀ t ∈ stmts, stmtShallow t = true)
    (hok : (streamFrames s (.gen stmts)).err = none)
    (hsmall : framesSmall (streamFrames s (.gen stmts))) :
    ∃ opened, getOptionsAndFrames .seekable (runBytes delimited (streamFrames s (.gen stmts))) = .ok opened ∧
      opened.opts = {
        physical := cls.physical, logical := s.logicalType
        maxNames := o.preset.maxNames, maxPrefixes := o.preset.maxPrefixes, maxDatatypes := o.preset.maxDatatypes
        streamName := o.params.streamName, generalized := o.params.generalized, rdfStar := o.params.rdfStar
        version := if o.params.namespaceDeclarations then 2 else 1
        delimited := delimited
        namespaceDeclarations := o.params.namespaceDeclarations } := by
  obtain ⟨opened, h1, h2, _⟩ := run_opened cls o s stmts delimited hs hl hp hd hok hsmall _
    (fun rest => C13_header_fidelity cls o s rest [] delimited hs)
  exact ⟨opened, h1, h2⟩

end Jelly
