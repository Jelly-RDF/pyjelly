import JellyProofs.C01Bytes
/-!
# C18 at byte level — "decodes to the input, or raises", for the bytes actually written

`stream_sim_or_err` (rows level, reference decoder: the statement behind `C18_triples/_quads/_graphs`) composed with
the decoder refinement (C04), the framing layer (C07) and the wire round trip, exactly as `C01_*_bytes` composes
`stream_sim` — but WITHOUT the sizing hypothesis: for every sequence of well-formed statements and every readable
preset, the writer either ends with an exception, or pyjelly's own flat parser, given the bytes that were written
(delimited or not), returns exactly the input.
-/
namespace Jelly

/-- Every stream class, no sizing hypothesis: the writer ends with an exception, or its bytes parse back
    to the input. -/
theorem C18_bytes_any (cls : StreamClass) (o : SerOptions) (s : Stream) (stmts : List (List Term))
    (delimited : Bool) (hs : Stream.new cls o = .ok s) (hl : validLogical s.logicalType = true)
    (hp : presetReadable o.preset = true) (hwf : ∀ t ∈ stmts, cls.stmtWF t = true)
    (hd : ∀ t ∈ stmts, stmtShallow t = true)
    (hsmall : framesSmall (streamFrames s (.gen stmts))) :
    (streamFrames s (.gen stmts)).err ≠ none ∨
    parseFlat .seekable (runBytes delimited (streamFrames s (.gen stmts))) false true
      = { events := stmts.map (fun t => Event.stmt (t.map Term.norm)), err := none } := by
  rcases stream_sim_or_err cls o s stmts hs hl hwf with h | hspec
  · exact Or.inl h
  · by_cases herr : (streamFrames s (.gen stmts)).err = none
    · exact Or.inr (bytes_core cls o s stmts _ hs hl hp hd hsmall herr hspec delimited)
    · exact Or.inl herr

theorem C18_triples_bytes (o : SerOptions) (s : Stream) (stmts : List (List Term)) (delimited : Bool)
    (hs : Stream.new .triple o = .ok s) (hl : validLogical s.logicalType = true)
    (hp : presetReadable o.preset = true)
    (hwf : ∀ t ∈ stmts, tripleWF t = true)
    (hd : ∀ t ∈ stmts, stmtShallow t = true)
    (hsmall : framesSmall (streamFrames s (.gen stmts))) :
    (streamFrames s (.gen stmts)).err ≠ none ∨
    parseFlat .seekable (runBytes delimited (streamFrames s (.gen stmts))) false true
      = { events := stmts.map (fun t => Event.stmt (t.map Term.norm)), err := none } :=
  C18_bytes_any .triple o s stmts delimited hs hl hp hwf hd hsmall

theorem C18_quads_bytes (o : SerOptions) (s : Stream) (stmts : List (List Term)) (delimited : Bool)
    (hs : Stream.new .quad o = .ok s) (hl : validLogical s.logicalType = true)
    (hp : presetReadable o.preset = true)
    (hwf : ∀ t ∈ stmts, quadWF t = true)
    (hd : ∀ t ∈ stmts, stmtShallow t = true)
    (hsmall : framesSmall (streamFrames s (.gen stmts))) :
    (streamFrames s (.gen stmts)).err ≠ none ∨
    parseFlat .seekable (runBytes delimited (streamFrames s (.gen stmts))) false true
      = { events := stmts.map (fun t => Event.stmt (t.map Term.norm)), err := none } :=
  C18_bytes_any .quad o s stmts delimited hs hl hp hwf hd hsmall

theorem C18_graphs_bytes (o : SerOptions) (s : Stream) (stmts : List (List Term)) (delimited : Bool)
    (hs : Stream.new .graph o = .ok s) (hl : validLogical s.logicalType = true)
    (hp : presetReadable o.preset = true)
    (hwf : ∀ t ∈ stmts, quadWF t = true)
    (hd : ∀ t ∈ stmts, stmtShallow t = true)
    (hsmall : framesSmall (streamFrames s (.gen stmts))) :
    (streamFrames s (.gen stmts)).err ≠ none ∨
    parseFlat .seekable (runBytes delimited (streamFrames s (.gen stmts))) false true
      = { events := stmts.map (fun t => Event.stmt (t.map Term.norm)), err := none } :=
  C18_bytes_any .graph o s stmts delimited hs hl hp hwf hd hsmall

end Jelly
