import JellyProofs.Lemmas.AuditOnce
/-!
# C19 — compression contract: send each string once, elide repeats, use deltas

Row-level audit of everything the writer emits against the reference decoder's state
(`Spec.audit`, defined in `JellyModel/Spec.lean`): an entry row for a string currently resident in
that table (`redundantEntry`), a present term equal to the repeated term of its slot
(`missedRepeat`), an explicit id where the zero form was available (`missedZero`), a graph closed and
immediately reopened under the same name (`splitGraph`).

The hypothesis `stmtNormal` is needed: the writer compares raw terms with Python `==`, the audit
compares decoded terms. For the triples `(a b "x"^^xsd:string)`, `(a b "x")`, `(a b "x"^^xsd:string)`
the model evaluates `Spec.audit` to `missedRepeat = 2` (the object is written three times although it
decodes to the same term each time); every other counter stays 0.
-/
namespace Jelly

/-- Terms on which Python `==` and the format's notion of "same term" coincide: no literal typed
    `xsd:string` (which the format identifies with the plain literal while `==` does not). -/
def stmtNormal (t : List Term) : Bool := t.all fun x => x.norm == x

theorem stmtNormal_elim {t : List Term} (h : stmtNormal t = true) : NormalStmt t := by
  intro x hx
  simp only [stmtNormal, List.all_eq_true, beq_iff_eq] at h
  exact h x hx

/-- TRIPLES: the audit of everything written is all zeros. (`hfit` is not used: `stream_audit` shows the same for
    a run that ends with an exception — what it had written is audit-free.) -/
theorem C19_triples (o : SerOptions) (s : Stream) (stmts : List (List Term))
    (hs : Stream.new .triple o = .ok s) (hl : validLogical s.logicalType = true)
    (hwf : ∀ t ∈ stmts, tripleWF t = true) (hfit : ∀ t ∈ stmts, stmtFits o.preset t = true)
    (hn : ∀ t ∈ stmts, stmtNormal t = true) :
    Spec.audit (streamFrames s (.gen stmts)).allRows' = {} := by
  have _ := hfit
  exact stream_audit .triple o s stmts hs hl hwf (fun t ht => stmtNormal_elim (hn t ht))

/-- QUADS (`hfit` not used, as above). -/
theorem C19_quads (o : SerOptions) (s : Stream) (stmts : List (List Term))
    (hs : Stream.new .quad o = .ok s) (hl : validLogical s.logicalType = true)
    (hwf : ∀ t ∈ stmts, quadWF t = true) (hfit : ∀ t ∈ stmts, stmtFits o.preset t = true)
    (hn : ∀ t ∈ stmts, stmtNormal t = true) :
    Spec.audit (streamFrames s (.gen stmts)).allRows' = {} := by
  have _ := hfit
  exact stream_audit .quad o s stmts hs hl hwf (fun t ht => stmtNormal_elim (hn t ht))

/-- GRAPHS from a statement sequence: in addition, consecutive quads with equal graph names travel
    under a single graph start (`splitGraph = 0`). (`hfit` not used, as above.) -/
theorem C19_graphs (o : SerOptions) (s : Stream) (stmts : List (List Term))
    (hs : Stream.new .graph o = .ok s) (hl : validLogical s.logicalType = true)
    (hwf : ∀ t ∈ stmts, quadWF t = true) (hfit : ∀ t ∈ stmts, stmtFits o.preset t = true)
    (hn : ∀ t ∈ stmts, stmtNormal t = true) :
    Spec.audit (streamFrames s (.gen stmts)).allRows' = {} := by
  have _ := hfit
  exact stream_audit .graph o s stmts hs hl hwf (fun t ht => stmtNormal_elim (hn t ht))

def nameEntryValues (rows : List Row) : List String :=
  rows.filterMap fun r => match r with | .nameEntry _ v => some v | _ => none

/-- The corollary of C19 (a) (DESIGN.md §6), for the name table of a TripleStream: when the table has room for every
    IRI occurrence of the input (so nothing is ever evicted), no two name-entry rows carry the same value — each name
    is sent at most once. (`hl` is not used: the entry rows do not depend on the logical type.) -/
theorem C19_each_name_once (o : SerOptions) (s : Stream) (stmts : List (List Term))
    (hs : Stream.new .triple o = .ok s) (hl : validLogical s.logicalType = true)
    (hwf : ∀ t ∈ stmts, tripleWF t = true) (hfit : ∀ t ∈ stmts, stmtFits o.preset t = true)
    (hbig : (stmts.flatMap fun t => t.flatMap Term.iris).length ≤ o.preset.maxNames) :
    (nameEntryValues (streamFrames s (.gen stmts)).allRows').Nodup := by
  have _ := hl
  exact triples_each_name_once o s stmts hs hwf hfit hbig

end Jelly
