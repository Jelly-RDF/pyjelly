import JellyGenerated.FlowsGen
import JellyProofs.Lemmas.PyExec
/-!
# The TRANSLATED frame-flow classes equal the model's `Flow`

`JellyGenerated/FlowsGen.lean` is produced from `pyjelly/serialize/flows.py` by `harness/gen_translate_flows.py` on
every run: for each concrete flow class, every method of the flow interface resolved along the class's MRO. The model
folds the six classes into one record `Flow` with a `kind`; each theorem states that on a flow of the corresponding
kind the translated method returns exactly what the model function returns and leaves exactly the attributes the model
function leaves, without raising. Constructors: a flow built by the translated `__init__` has the logical type, the
frame size (bounded kinds) and the empty row list of the model's `Flow.mk'`.
-/
namespace Jelly.Translated
open Jelly Jelly.Py

/-- a translated flow method on `f` behaves like the model function `g` -/
def FlowAgrees (m : M Flow (Option Frame)) (g : Flow → Flow × Option Frame) (f : Flow) : Prop :=
  m.exec f = (.ok (g f).2, (g f).1)

/-! Each method of `flows.py` once. The translator prints an inherited method again under every class that inherits
it, and the copies unfold to the same term: the lemma about one copy is, by unfolding, the lemma about each. -/

theorem to_stream_frame_agrees (f : Flow) : FlowAgrees Gen.ManualFrameFlow.to_stream_frame Flow.toStreamFrame f := by
  unfold FlowAgrees Gen.ManualFrameFlow.to_stream_frame Flow.toStreamFrame
  cases h : f.rows.isEmpty <;> simp only [py_exec, ↓reduceIte, h]

/-- `FrameFlow.frame_from_graph` / `frame_from_dataset` / `frame_from_bounds` return `None`: right wherever the model
    does nothing -/
theorem returns_none_agrees {g : Flow → Flow × Option Frame} {f : Flow} (hg : g f = (f, none)) :
    FlowAgrees (pure none) g f := by
  rw [FlowAgrees, hg]; rfl

/-- `GraphsFrameFlow.frame_from_graph` / `DatasetsFrameFlow.frame_from_dataset` hand on to `to_stream_frame` -/
theorem forwards_agrees {g : Flow → Flow × Option Frame} {f : Flow} (hg : g f = f.toStreamFrame) :
    FlowAgrees Gen.ManualFrameFlow.to_stream_frame g f := by
  rw [FlowAgrees, hg]; exact to_stream_frame_agrees f

theorem bounded_frame_from_bounds_agrees (f : Flow) (hk : f.kind.isBounded = true) :
    FlowAgrees Gen.BoundedFrameFlow.frame_from_bounds Flow.frameFromBounds f := by
  unfold FlowAgrees Gen.BoundedFrameFlow.frame_from_bounds Flow.frameFromBounds
  simp only [py_exec, hk, Bool.true_and]
  split
  · exact to_stream_frame_agrees f
  · rfl

theorem manual_to_stream_frame : ∀ f : Flow, f.kind = .manual →
    FlowAgrees Gen.ManualFrameFlow.to_stream_frame Flow.toStreamFrame f :=
  fun f _ => to_stream_frame_agrees f

theorem manual_frame_from_bounds : ∀ f : Flow, f.kind = .manual →
    FlowAgrees Gen.ManualFrameFlow.frame_from_bounds Flow.frameFromBounds f :=
  fun f hk => returns_none_agrees (by simp [Flow.frameFromBounds, FlowKind.isBounded, hk])

theorem manual_frame_from_graph : ∀ f : Flow, f.kind = .manual →
    FlowAgrees Gen.ManualFrameFlow.frame_from_graph Flow.frameFromGraph f :=
  fun f hk => returns_none_agrees (by simp [Flow.frameFromGraph, hk])

theorem manual_frame_from_dataset : ∀ f : Flow, f.kind = .manual →
    FlowAgrees Gen.ManualFrameFlow.frame_from_dataset Flow.frameFromDataset f :=
  fun f hk => returns_none_agrees (by simp [Flow.frameFromDataset, hk])

theorem manual_init (l : Nat) :
    ∃ f, construct (Gen.ManualFrameFlow.__init__ l) = .ok f ∧ f.logicalType = (Flow.mk' .manual l 0).logicalType ∧
      f.rows = (Flow.mk' .manual l 0).rows :=
  ⟨_, construct_ok rfl, rfl, rfl⟩

theorem bounded_to_stream_frame : ∀ f : Flow, f.kind = .bounded →
    FlowAgrees Gen.BoundedFrameFlow.to_stream_frame Flow.toStreamFrame f :=
  fun f _ => to_stream_frame_agrees f

theorem bounded_frame_from_bounds : ∀ f : Flow, f.kind = .bounded →
    FlowAgrees Gen.BoundedFrameFlow.frame_from_bounds Flow.frameFromBounds f :=
  fun f hk => bounded_frame_from_bounds_agrees f (by rw [hk]; rfl)

theorem bounded_frame_from_graph : ∀ f : Flow, f.kind = .bounded →
    FlowAgrees Gen.BoundedFrameFlow.frame_from_graph Flow.frameFromGraph f :=
  fun f hk => returns_none_agrees (by simp [Flow.frameFromGraph, hk])

theorem bounded_frame_from_dataset : ∀ f : Flow, f.kind = .bounded →
    FlowAgrees Gen.BoundedFrameFlow.frame_from_dataset Flow.frameFromDataset f :=
  fun f hk => returns_none_agrees (by simp [Flow.frameFromDataset, hk])

theorem bounded_init (l fs : Nat) :
    ∃ f, construct (Gen.BoundedFrameFlow.__init__ l fs) = .ok f ∧
      f.logicalType = (Flow.mk' .bounded l fs).logicalType ∧
      f.frameSize = (Flow.mk' .bounded l fs).frameSize ∧ f.rows = (Flow.mk' .bounded l fs).rows :=
  ⟨_, construct_ok rfl, rfl, rfl, rfl⟩

theorem flatTriples_to_stream_frame : ∀ f : Flow, f.kind = .flatTriples →
    FlowAgrees Gen.FlatTriplesFrameFlow.to_stream_frame Flow.toStreamFrame f :=
  fun f _ => to_stream_frame_agrees f

theorem flatTriples_frame_from_bounds : ∀ f : Flow, f.kind = .flatTriples →
    FlowAgrees Gen.FlatTriplesFrameFlow.frame_from_bounds Flow.frameFromBounds f :=
  fun f hk => bounded_frame_from_bounds_agrees f (by rw [hk]; rfl)

theorem flatTriples_frame_from_graph : ∀ f : Flow, f.kind = .flatTriples →
    FlowAgrees Gen.FlatTriplesFrameFlow.frame_from_graph Flow.frameFromGraph f :=
  fun f hk => returns_none_agrees (by simp [Flow.frameFromGraph, hk])

theorem flatTriples_frame_from_dataset : ∀ f : Flow, f.kind = .flatTriples →
    FlowAgrees Gen.FlatTriplesFrameFlow.frame_from_dataset Flow.frameFromDataset f :=
  fun f hk => returns_none_agrees (by simp [Flow.frameFromDataset, hk])

theorem flatTriples_init (l fs : Nat) :
    ∃ f, construct (Gen.FlatTriplesFrameFlow.__init__ l fs) = .ok f ∧
      f.logicalType = (Flow.mk' .flatTriples l fs).logicalType ∧
      f.frameSize = (Flow.mk' .flatTriples l fs).frameSize ∧ f.rows = (Flow.mk' .flatTriples l fs).rows :=
  ⟨_, construct_ok rfl, rfl, rfl, rfl⟩

theorem flatQuads_to_stream_frame : ∀ f : Flow, f.kind = .flatQuads →
    FlowAgrees Gen.FlatQuadsFrameFlow.to_stream_frame Flow.toStreamFrame f :=
  fun f _ => to_stream_frame_agrees f

theorem flatQuads_frame_from_bounds : ∀ f : Flow, f.kind = .flatQuads →
    FlowAgrees Gen.FlatQuadsFrameFlow.frame_from_bounds Flow.frameFromBounds f :=
  fun f hk => bounded_frame_from_bounds_agrees f (by rw [hk]; rfl)

theorem flatQuads_frame_from_graph : ∀ f : Flow, f.kind = .flatQuads →
    FlowAgrees Gen.FlatQuadsFrameFlow.frame_from_graph Flow.frameFromGraph f :=
  fun f hk => returns_none_agrees (by simp [Flow.frameFromGraph, hk])

theorem flatQuads_frame_from_dataset : ∀ f : Flow, f.kind = .flatQuads →
    FlowAgrees Gen.FlatQuadsFrameFlow.frame_from_dataset Flow.frameFromDataset f :=
  fun f hk => returns_none_agrees (by simp [Flow.frameFromDataset, hk])

theorem flatQuads_init (l fs : Nat) :
    ∃ f, construct (Gen.FlatQuadsFrameFlow.__init__ l fs) = .ok f ∧
      f.logicalType = (Flow.mk' .flatQuads l fs).logicalType ∧
      f.frameSize = (Flow.mk' .flatQuads l fs).frameSize ∧ f.rows = (Flow.mk' .flatQuads l fs).rows :=
  ⟨_, construct_ok rfl, rfl, rfl, rfl⟩

theorem graphs_to_stream_frame : ∀ f : Flow, f.kind = .graphs →
    FlowAgrees Gen.GraphsFrameFlow.to_stream_frame Flow.toStreamFrame f :=
  fun f _ => to_stream_frame_agrees f

theorem graphs_frame_from_bounds : ∀ f : Flow, f.kind = .graphs →
    FlowAgrees Gen.GraphsFrameFlow.frame_from_bounds Flow.frameFromBounds f :=
  fun f hk => returns_none_agrees (by simp [Flow.frameFromBounds, FlowKind.isBounded, hk])

theorem graphs_frame_from_graph : ∀ f : Flow, f.kind = .graphs →
    FlowAgrees Gen.GraphsFrameFlow.frame_from_graph Flow.frameFromGraph f :=
  fun f hk => forwards_agrees (by simp [Flow.frameFromGraph, hk])

theorem graphs_frame_from_dataset : ∀ f : Flow, f.kind = .graphs →
    FlowAgrees Gen.GraphsFrameFlow.frame_from_dataset Flow.frameFromDataset f :=
  fun f hk => returns_none_agrees (by simp [Flow.frameFromDataset, hk])

theorem graphs_init (l : Nat) :
    ∃ f, construct (Gen.GraphsFrameFlow.__init__ l) = .ok f ∧ f.logicalType = (Flow.mk' .graphs l 0).logicalType ∧
      f.rows = (Flow.mk' .graphs l 0).rows :=
  ⟨_, construct_ok rfl, rfl, rfl⟩

theorem datasets_to_stream_frame : ∀ f : Flow, f.kind = .datasets →
    FlowAgrees Gen.DatasetsFrameFlow.to_stream_frame Flow.toStreamFrame f :=
  fun f _ => to_stream_frame_agrees f

theorem datasets_frame_from_bounds : ∀ f : Flow, f.kind = .datasets →
    FlowAgrees Gen.DatasetsFrameFlow.frame_from_bounds Flow.frameFromBounds f :=
  fun f hk => returns_none_agrees (by simp [Flow.frameFromBounds, FlowKind.isBounded, hk])

theorem datasets_frame_from_graph : ∀ f : Flow, f.kind = .datasets →
    FlowAgrees Gen.DatasetsFrameFlow.frame_from_graph Flow.frameFromGraph f :=
  fun f hk => returns_none_agrees (by simp [Flow.frameFromGraph, hk])

theorem datasets_frame_from_dataset : ∀ f : Flow, f.kind = .datasets →
    FlowAgrees Gen.DatasetsFrameFlow.frame_from_dataset Flow.frameFromDataset f :=
  fun f hk => forwards_agrees (by simp [Flow.frameFromDataset, hk])

theorem datasets_init (l : Nat) :
    ∃ f, construct (Gen.DatasetsFrameFlow.__init__ l) = .ok f ∧ f.logicalType = (Flow.mk' .datasets l 0).logicalType ∧
      f.rows = (Flow.mk' .datasets l 0).rows :=
  ⟨_, construct_ok rfl, rfl, rfl⟩

/-- the constants the translated classes use are the model's -/
theorem default_frame_size : Gen.DEFAULT_FRAME_SIZE = DEFAULT_FRAME_SIZE := rfl

theorem class_logical_types :
    [Gen.ManualFrameFlow.class_logical_type, Gen.BoundedFrameFlow.class_logical_type,
     Gen.FlatTriplesFrameFlow.class_logical_type, Gen.FlatQuadsFrameFlow.class_logical_type,
     Gen.GraphsFrameFlow.class_logical_type, Gen.DatasetsFrameFlow.class_logical_type]
      = [FlowKind.manual, .bounded, .flatTriples, .flatQuads, .graphs, .datasets].map FlowKind.classLogical := rfl

/-- Non-vacuity: a translated bounded flow holding `frame_size` rows cuts a frame and is left empty. -/
example : (Gen.FlatTriplesFrameFlow.frame_from_bounds.exec
      { kind := .flatTriples, logicalType := 1, frameSize := 2,
        rows := [Row.graphEnd, Row.graphEnd] }).2.rows = [] := by
  decide

end Jelly.Translated
