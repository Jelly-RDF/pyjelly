import JellyModel
import JellyProofs.C03
import JellyProofs.Lemmas.StreamSim
import JellyProofs.Lemmas.IriJoint
/-!
# C07 (d) of DESIGN.md §6 — lookup and repeated-term state carried across frames: several sinks through ONE stream
# C05 — the mirror at the TermEncoder → Decoder level

The grouped serializer is one run of commands on a fresh stream (`grouped_sim`), so the state carried from sink to
sink is the state carried from row to row. For C05, `iriHistory` pushes IRIs one by one through a term encoder and
pyjelly's decoder — entry rows ingested, then the two ids resolved — and collects what comes back; each round is a
step of the joint run (`iri_step_joint`, `Lemmas/IriJoint.lean`).
-/
namespace Jelly

/-- `grouped_stream_to_frames` over several sinks of triples with explicit options (declarations off):
    one stream is created from the first sink and reused; the rows written for ALL sinks together are
    accepted by the reference decoder and denote the statements of all sinks in order — i.e. the lookup
    tables, delta bases and repeated terms carried from one sink's frame(s) to the next are consistent. -/
theorem C07_grouped_triples_valid (o : SerOptions) (sinks : List Sink) (first : Sink) (more : List Sink)
    (hs : sinks = first :: more) (hfirst : first.isTriplesSink = true)
    (hns : o.params.namespaceDeclarations = false)
    (s : Stream) (hnew : Stream.new .triple o = .ok s) (hl : validLogical s.logicalType = true)
    (hwf : ∀ sk ∈ sinks, ∀ t ∈ sk.store, tripleWF t = true)
    (hfit : ∀ sk ∈ sinks, ∀ t ∈ sk.store, stmtFits o.preset t = true) :
    (groupedStreamToFrames sinks (some o)).2.2 = none ∧
    ∃ st, Spec.runRows ((groupedStreamToFrames sinks (some o)).1.flatMap (·.rows))
            = (st, (sinks.flatMap (·.store)).map (fun t => Event.stmt (t.map Term.norm)), none) := by
  subst hs
  have hguess : guessStream o first = .ok s := by
    simp only [guessStream, hfirst, Bool.not_true, Bool.and_false, Bool.false_eq_true, if_false, hnew]
  exact grouped_sim hnew hl hns first more hguess hwf hfit

/-- The same for quads (the first sink is not a triples sink and the base logical type is not GRAPHS,
    so `guess_stream` picks a QuadStream). -/
theorem C07_grouped_quads_valid (o : SerOptions) (sinks : List Sink) (first : Sink) (more : List Sink)
    (hs : sinks = first :: more) (hfirst : first.isTriplesSink = false) (hlt : o.logicalType % 10 ≠ 3)
    (hns : o.params.namespaceDeclarations = false)
    (s : Stream) (hnew : Stream.new .quad o = .ok s) (hl : validLogical s.logicalType = true)
    (hwf : ∀ sk ∈ sinks, ∀ t ∈ sk.store, quadWF t = true)
    (hfit : ∀ sk ∈ sinks, ∀ t ∈ sk.store, stmtFits o.preset t = true) :
    (groupedStreamToFrames sinks (some o)).2.2 = none ∧
    ∃ st, Spec.runRows ((groupedStreamToFrames sinks (some o)).1.flatMap (·.rows))
            = (st, (sinks.flatMap (·.store)).map (fun t => Event.stmt (t.map Term.norm)), none) := by
  subst hs
  have hlt' : (o.logicalType % 10 != 3) = true := by simpa using hlt
  have hguess : guessStream o first = .ok s := by
    simp only [guessStream, hfirst, hlt', Bool.not_false, Bool.and_self, if_true, hnew]
  exact grouped_sim hnew hl hns first more hguess hwf hfit

def iriHistory (te : TermEnc) (d : DecState) : List String → List String → Except PyErr (TermEnc × DecState × List String)
  | [], acc => .ok (te, d, acc)
  | iri :: rest, acc =>
    match te.iriIndices iri with
    | (_, .error e) => .error e
    | (te', .ok (rows, p, n)) =>
      match d.decodeRows true rows [] with
      | (_, _, some e) => .error e
      | (d1, _, none) =>
        match d1.decodeIri p n with
        | .error e => .error e
        | .ok (d2, s) => iriHistory te' d2 rest (acc ++ [s])

theorem iriHistory_joint : ∀ (iris : List String) (te : TermEnc) (d : DecState) (acc : List String),
    IriJ te d → ∃ te' d', iriHistory te d iris acc = .ok (te', d', acc ++ iris) := by
  intro iris
  induction iris with
  | nil => intro te d acc _; exact ⟨te, d, by simp [iriHistory]⟩
  | cons iri rest ih =>
    intro te d acc inv
    obtain ⟨te', rows, p, n, d1, d2, heq, h1, h2, inv'⟩ := iri_step_joint inv iri
    obtain ⟨te2, dd, hfin⟩ := ih te' d2 (acc ++ [iri]) inv'
    refine ⟨te2, dd, ?_⟩
    simp only [iriHistory, heq, h1, h2]
    rw [hfin, List.append_assoc, List.singleton_append]

/-- C05 at the term level (the observation point of the property: `TermEncoder.encode_iri` rows and
    indices fed to `Decoder.ingest_*` / `decode_iri`). For ANY history of IRIs pushed through one term
    encoder (tables of any admissible size, prefix table possibly disabled) with the entry rows ingested
    by pyjelly's decoder and each emitted (prefix_id, name_id) resolved right away: every IRI comes back
    unchanged. -/
theorem C05_term_level_iris (maxNames maxPrefixes maxDatatypes : Nat) (hn : 8 ≤ maxNames)
    (hsz : maxNames ≤ MAX_LOOKUP_SIZE ∧ maxPrefixes ≤ MAX_LOOKUP_SIZE ∧ maxDatatypes ≤ MAX_LOOKUP_SIZE)
    (opts : ParserOptions) (ho : opts.maxNames = maxNames ∧ opts.maxPrefixes = maxPrefixes ∧ opts.maxDatatypes = maxDatatypes)
    (iris : List String) :
    ∃ d0 te d, DecState.new opts .triples = .ok d0 ∧
      iriHistory (TermEnc.new maxNames maxPrefixes maxDatatypes) d0 iris [] = .ok (te, d, iris) := by
  obtain ⟨rfl, rfl, rfl⟩ := ho
  have inv0 : IriJ (TermEnc.new opts.maxNames opts.maxPrefixes opts.maxDatatypes)
      { opts, adapter := .triples, names := Spec.mkTable opts.maxNames, prefixes := Spec.mkTable opts.maxPrefixes,
        datatypes := Spec.mkTable opts.maxDatatypes } :=
    ⟨JointInv.init (by omega), by
      by_cases hp : opts.maxPrefixes = 0
      · exact Or.inr ⟨by simp [TermEnc.new, LookupEnc.new, Lookup.new, hp], rfl⟩
      · exact Or.inl (JointInv.init (by omega))⟩
  obtain ⟨te, d, h⟩ := iriHistory_joint iris _ _ [] inv0
  exact ⟨_, te, d, (DecState.new_eq opts .triples).trans (if_pos hsz), by simpa using h⟩

end Jelly
