import JellyProofs.C20Full
/-!
# C20 for GraphStream — `GraphStream.graph()` driven graph by graph with catch-and-continue

A caller writes a dataset graph by graph (`GraphStream.graph(graph_id, triples)`) and carries on after every
exception: an unsupported graph name, a triple that cannot be encoded somewhere inside a graph, a row too big for
the tables. The quads the stream ACCEPTED are: for every graph whose name was encoded, the triples before the first
one that raised (all of them if none raised). What was written — frames handed out plus the flow — is valid for the
reference decoder and denotes exactly those quads, in order. A graph abandoned half-way stays open on the wire
(no graph end row); the next graph start closes it.
-/
namespace Jelly

/-- The triples of a graph that `Stream.graphTriples` takes before it raises (all of them if it does not). -/
def graphTriplesAccepted (exc : PyErr) (s : Stream) : List (List Term) → List (List Term)
  | [] => []
  | t :: ts =>
    match s.triple exc t with
    | (_, .error _) => []
    | (s', .ok _) => t :: graphTriplesAccepted exc s' ts

/-- The quads one `Stream.graph` call writes: none if the graph name itself is refused. -/
def graphAccepted (exc : PyErr) (s : Stream) (g : Term) (triples : List (List Term)) : List (List Term) :=
  match s.enc.te.beginRow with
  | .error _ => []
  | .ok te0 =>
    match te0.graph g with
    | (_, .error _) => []
    | (te', .ok (rows, w)) =>
      let s1 := ({ s with enc := { s.enc with te := te'.endRow } } : Stream).pushRows (rows ++ [Row.graphStart (some w)])
      (graphTriplesAccepted exc s1 triples).map (· ++ [g])

/-- Catch-and-continue over graph calls: frames handed out and the quads accepted. -/
def catchGraphs (exc : PyErr) : Stream → List (Term × List (List Term)) → List Frame → List (List Term) →
    Stream × List Frame × List (List Term)
  | s, [], fr, acc => (s, fr, acc)
  | s, (g, ts) :: rest, fr, acc =>
    let r := s.graph exc g ts
    catchGraphs exc r.1 rest (fr ++ r.2.1) (acc ++ graphAccepted exc s g ts)

/-- `graphTriplesAccepted` depends on the stream through its encoder only. -/
theorem graphTriplesAccepted_eq (exc : PyErr) :
    ∀ (ts : List (List Term)) (s : Stream), graphTriplesAccepted exc s ts = takenOf (tripleOp exc) s.enc ts := by
  intro ts
  induction ts with
  | nil => intro s; rfl
  | cons t ts ih =>
    intro s
    rw [graphTriplesAccepted, takenOf, Stream.triple_eq]
    show _ = match encodeTriple exc s.enc t with
      | (_, .error _) => []
      | (es', .ok _) => t :: takenOf (tripleOp exc) es' ts
    rcases encodeTriple exc s.enc t with ⟨enc', e | rows⟩
    · rfl
    · exact congrArg (t :: ·) (ih _)

theorem graphAccepted_eq (exc : PyErr) (s : Stream) (g : Term) (ts : List (List Term)) :
    graphAccepted exc s g ts = graphTakenOf exc s.enc g ts := by
  unfold graphAccepted graphTakenOf graphStartOp
  cases s.enc.te.beginRow with
  | error e => rfl
  | ok te0 =>
    dsimp only
    rcases te0.graph g with ⟨te', e | ⟨rows, w⟩⟩
    · rfl
    · exact congrArg _ (graphTriplesAccepted_eq exc ts _)

/-- The driver `catchGraphs` is the flow-free `catchRun`: same rows, same accepted quads. -/
theorem catchGraphs_flat (exc : PyErr) (gs : List (Term × List (List Term))) (s : Stream) (fr : List Frame)
    (acc : List (List Term)) :
    rowsOf (catchGraphs exc s gs fr acc).2.1 (catchGraphs exc s gs fr acc).1
      = rowsOf fr s
        ++ (catchRun (fun x => graphCmds exc x.1 x.2) (fun x es => graphTakenOf exc es x.1 x.2) s.enc gs).2.1 ∧
    (catchGraphs exc s gs fr acc).2.2
      = acc ++ (catchRun (fun x => graphCmds exc x.1 x.2) (fun x es => graphTakenOf exc es x.1 x.2) s.enc gs).2.2 := by
  induction gs generalizing s fr acc with
  | nil => exact ⟨(List.append_nil _).symm, (List.append_nil _).symm⟩
  | cons x xs ih =>
    obtain ⟨g, ts⟩ := x
    rw [catchGraphs, catchRun, Stream.graph_exec, graphAccepted_eq]
    generalize hR : Run.exec { stream := s } (graphCmds exc g ts) = R
    have hf : Run.Flat { stream := s } R (flatRun s.enc (graphCmds exc g ts)) := hR ▸ Run.exec_flat _ _
    obtain ⟨h1, h2⟩ := ih R.stream (fr ++ R.frames) (acc ++ graphTakenOf exc s.enc g ts)
    have hrows : rowsOf (fr ++ R.frames) R.stream = rowsOf fr s ++ (flatRun s.enc (graphCmds exc g ts)).2.1 := by
      have := hf.rows
      simp only [Run.allRows', rowsOf, List.flatMap_nil, List.nil_append, List.flatMap_append,
        List.append_assoc] at this ⊢
      rw [this]
    exact ⟨by rw [h1, hf.enc, hrows, List.append_assoc], by rw [h2, hf.enc, List.append_assoc]⟩

theorem C20_graphs (o : SerOptions) (s : Stream) (gs : List (Term × List (List Term)))
    (hs : Stream.new .graph o = .ok s) (hl : validLogical s.logicalType = true)
    (hacc : ∀ q ∈ (catchGraphs .runtimeError s.enroll gs [] []).2.2, quadWF q = true) :
    ∃ st, Spec.runRows ((catchGraphs .runtimeError s.enroll gs [] []).2.1.flatMap (·.rows)
                         ++ (catchGraphs .runtimeError s.enroll gs [] []).1.flow.rows)
            = (st, (catchGraphs .runtimeError s.enroll gs [] []).2.2.map (fun q => Event.stmt (q.map Term.norm)), none) := by
  obtain ⟨h1, h2⟩ := catchGraphs_flat .runtimeError gs s.enroll [] []
  rw [s.enroll_enc] at h1 h2
  rw [h2, List.nil_append] at hacc ⊢
  obtain ⟨st, h⟩ := catchRun_fresh hs hl
    (catchBlock_graph (Stream.new_spec hs).valid (wireOptions_physical hs) .runtimeError) gs hacc
  refine ⟨st, ?_⟩
  show Spec.runRows (rowsOf _ _) = _
  rw [h1, show rowsOf [] s.enroll = [s.optionsRow] from exec_fresh_rows hs []]
  exact h

end Jelly
