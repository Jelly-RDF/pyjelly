import JellyModel
import JellyGenerated.Tables
/-!
# The tables regenerated from the live code equal the model's (kernel-checked on every run)

Outcome encoding: ok → `0 :: payload`, exception → `[1, code]`.
-/
namespace Jelly
open Jelly.Generated

def errCode : PyErr → Nat
  | .conformance => 1 | .jassertion => 2 | .notImplemented => 3 | .typeError => 4 | .indexError => 5
  | .keyError => 6 | .valueError => 7 | .assertionError => 8 | _ => 99

def kindCode : FlowKind → Nat
  | .manual => 0 | .bounded => 1 | .flatTriples => 2 | .flatQuads => 3 | .graphs => 4 | .datasets => 5

def kindOfCode : Nat → FlowKind
  | 0 => .manual | 1 => .bounded | 2 => .flatTriples | 3 => .flatQuads | 4 => .graphs | _ => .datasets

def outcomeOf {α} (f : α → List Nat) : Except PyErr α → List Nat
  | .ok a => 0 :: f a
  | .error e => [1, errCode e]

def logicalDomain : List Nat := [0, 1, 2, 3, 4, 13, 14, 114]

def classOfCode : Nat → StreamClass
  | 0 => .triple | 1 => .quad | _ => .graph

theorem tables_constants :
    implConstants = [MIN_NAME_LOOKUP_SIZE, MAX_LOOKUP_SIZE, 1, 2, ({} : Preset).maxNames, ({} : Preset).maxPrefixes,
                     ({} : Preset).maxDatatypes, DEFAULT_FRAME_SIZE] := by decide

theorem tables_string_datatype : implStringDatatype = XSD_STRING := by decide +kernel

theorem tables_enums :
    implPhysicalValues = (List.range 200).filter validPhysical ∧
    implLogicalValues = (List.range 200).filter validLogical := by decide +kernel

/-- `validate_type_compatibility` on the whole 4 × 8 table (writer side `typesCompatible` and reader
    side `validateTypes` both agree with the code). -/
theorem tables_type_compat :
    implTypeCompat =
      ((List.range 4).flatMap fun p => logicalDomain.map fun l =>
        [p, l] ++ outcomeOf (fun _ => []) (validateTypes p l)) ∧
    implTypeCompat.map (fun row => [row[0]!, row[1]!, row[2]!]) =
      ((List.range 4).flatMap fun p => logicalDomain.map fun l =>
        [p, l, if typesCompatible p l then 0 else 1]) := by decide +kernel

theorem tables_flat : implFlat = logicalDomain.map fun l => [l, if logicalFlat l then 1 else 0] := by decide

theorem tables_flow_for_type :
    implFlowForType = (logicalDomain.filter (· != 0)).map fun l =>
      [l] ++ outcomeOf (fun k => [kindCode k]) (flowForType l) := by decide

/-- `Stream.__init__` (flow inference + type validation) over class × logical type × delimited ×
    frame size ∈ {0, 1, 7}. -/
theorem tables_stream_new :
    implStreamNew =
      ((List.range 3).flatMap fun c => logicalDomain.flatMap fun l => [true, false].flatMap fun d =>
        [0, 1, 7].map fun fs =>
          [c, l, if d then 1 else 0, fs] ++
          outcomeOf (fun (s : Stream) =>
              [kindCode s.flow.kind, s.flow.logicalType,
               if s.flow.kind.isBounded then s.flow.frameSize else 0, s.logicalType, s.cls.physical])
            (Stream.new (classOfCode c) { logicalType := l, frameSize := fs, params := { delimited := d } })) :=
  eq_of_beq (by decide +kernel)

/-- Explicit flow objects: `logical_type or cls.logical_type`, `frame_size or DEFAULT_FRAME_SIZE`. -/
theorem tables_flow_mk :
    implFlowMk =
      ((List.range 6).flatMap fun k => [0, 1, 3, 14].flatMap fun l => [0, 5].map fun fs =>
        let f := Flow.mk' (kindOfCode k) l fs
        [k, l, fs, 0, f.logicalType, if f.kind.isBounded then f.frameSize else 0]) := by decide +kernel

theorem tables_params_version :
    implParamsVersion =
      ([0, 1, 2, 3, 7].flatMap fun v => [false, true].map fun nd =>
        [v, if nd then 1 else 0, ({ namespaceDeclarations := nd } : Params).version]) := by decide

theorem tables_preset_accept :
    implPresetAccept = [0, 1, 7, 8, 9, 4096, 4097].map fun n =>
      [n, if ({ maxNames := n } : Preset).valid then 0 else 1] := by decide

def hintReps : List Nat := [0x00, 0x01, 0x09, 0x0A, 0x0B, 0x12, 0x7A, 0x7F, 0x80, 0x8A, 0xFF]

theorem tables_hint3 :
    implHint3 = (hintReps.flatMap fun a => hintReps.flatMap fun b => hintReps.map fun c =>
      [a, b, c, if delimitedHint [a.toUInt8, b.toUInt8, c.toUInt8] then 1 else 0]) :=
  eq_of_beq (by decide +kernel)

theorem tables_hint_short :
    implHintShort.map (fun x => (x.1, if delimitedHint (x.1.map Nat.toUInt8) then 1 else 0)) = implHintShort := by
  decide +kernel

end Jelly
