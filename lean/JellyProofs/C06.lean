import JellyModel.SerGeneric
import JellyModel.Trace
import JellyProofs.Lemmas.SerRows
import JellyProofs.Lemmas.SerTrace
/-!
# C06 — no accepted serializer configuration silently drops statements
# C11 — bounded buffering on write (trace level)
# C12 — streams are isolated (model level)

C06: `streamFrames` is `Run.exec` of a command list that ends with an unconditional flush, and two streams that differ
only in their flow (`PSim`) stay so under any execution, with the same outcome (`Run.exec_psim`). C11 is read off the traced
loops (`Lemmas/SerTrace.lean`). C12: the model threads every state explicitly, so two streams share nothing;
`runInterleaved` says what that means for any two state machines.
-/
namespace Jelly

/-- All rows of a run: those handed out in frames, in order, followed by those still in the flow. -/
def Run.allRows (r : Run) : List Row := r.frames.flatMap (·.rows) ++ r.stream.flow.rows

/-- C06 (a). For EVERY stream (any class, any logical type, delimited or not, any inferred or
    explicitly passed flow, any frame size) and every input: if `stream_frames` returns normally,
    nothing is left behind in the flow. -/
theorem C06_nothing_left_in_flow (s : Stream) (d : SerData) (h : (streamFrames s d).err = none) :
    (streamFrames s d).stream.flow.rows = [] :=
  streamFrames_flow_rows s d h

/-- The same stream with another flow object (same logical type, so the header is the same). -/
def Stream.withFlow (s : Stream) (kind : FlowKind) (frameSize : Nat) : Stream :=
  { s with flow := { s.flow with kind := kind, frameSize := frameSize } }

/-- C06 (b), and DESIGN.md §6 C07 (d), state carried across frames. The frame flow only decides where the row
    sequence is cut: for any two flow classes and frame sizes, the rows written (frames concatenated, plus whatever
    a failed run left in the flow) are the same sequence, the encoder state is the same and the outcome is the
    same. So every row produced for a statement reaches the output, in order, under every configuration. -/
theorem C06_rows_independent_of_flow (s : Stream) (d : SerData) (k₁ k₂ : FlowKind) (n₁ n₂ : Nat) :
    (streamFrames (s.withFlow k₁ n₁) d).allRows = (streamFrames (s.withFlow k₂ n₂) d).allRows ∧
    (streamFrames (s.withFlow k₁ n₁) d).stream.enc = (streamFrames (s.withFlow k₂ n₂) d).stream.enc ∧
    (streamFrames (s.withFlow k₁ n₁) d).err = (streamFrames (s.withFlow k₂ n₂) d).err := by
  have h : PSim [] (s.withFlow k₁ n₁) [] (s.withFlow k₂ n₂) := ⟨FlowSim.refl s, rfl⟩
  rw [streamFrames_exec, streamFrames_exec]
  obtain ⟨⟨hs, hr⟩, he⟩ := Run.exec_psim h.enroll (streamCmds s.cls s.opts.params.namespaceDeclarations d)
  exact ⟨hr, hs.2.2.1, he⟩

/-- C06 (c). No frame handed out is empty. -/
theorem C06_no_empty_frame (s : Stream) (d : SerData) :
    ∀ f ∈ (streamFrames s d).frames, f.rows ≠ [] :=
  (streamFrames_flat s d).noEmpty (.init _ _)

/-- The trace functions describe the same run as the untraced model: same frames (by size), same
    final stream, same outcome. -/
theorem C11_trace_faithful (s : Stream) (stmts : List (List Term)) :
    yieldsOf (streamTrace s stmts).1 = (streamFrames s (.gen stmts)).frames.map (·.rows.length) ∧
    (streamTrace s stmts).2.2 = (streamFrames s (.gen stmts)).err :=
  ⟨(streamTrace_faithful s stmts).1, (streamTrace_faithful s stmts).2.2⟩

/-- DESIGN.md §6 C11 (i). Flat delimited serialization with a bounded flow: from the second statement on, whenever
    the serializer asks its input for the next statement, fewer than `frame_size` rows are pending. -/
theorem C11_pending_below_frame_size (s : Stream) (stmts : List (List Term))
    (hb : s.flow.kind.isBounded = true) (hc : s.cls ≠ .graph) (hfs : 0 < s.flow.frameSize) :
    ∀ ip ∈ pullsOf (streamTrace s stmts).1, 2 ≤ ip.1 → ip.2 < s.flow.frameSize := by
  obtain ⟨step, hs, he⟩ := classLoopTrace_flat hc stmts s.enroll
  rw [streamTrace_eq, traceWith_pulls, he]
  have hk := s.enroll_keeps
  have := stmtLoopTrace_pending hs stmts s.enroll 1 (by rw [hk.kind]; exact hb)
    (by rw [hk.frameSize]; exact hfs) (by omega)
  rwa [hk.frameSize] at this

/-- DESIGN.md §6 C11 (ii) and (iii), in the form of `oneYieldBetweenPulls` (`Lemmas/SerTrace.lean`). -/
theorem C11_no_lookahead (s : Stream) (stmts : List (List Term)) (hc : s.cls ≠ .graph)
    (hok : (streamTrace s stmts).2.2 = none) :
    (pullsOf (streamTrace s stmts).1).map (·.1) = List.range' 1 (stmts.length + 1) ∧
    -- everything before the last pull (the one answered by end-of-input) has at most one yield per pull
    ∃ body p tail, (streamTrace s stmts).1 = body ++ .pull (stmts.length + 1) p :: tail ∧
      oneYieldBetweenPulls body = true ∧ pullsOf tail = [] := by
  obtain ⟨step, _, he⟩ := classLoopTrace_flat hc stmts s.enroll
  rw [streamTrace_eq, traceWith_err, he] at hok
  rw [streamTrace_eq, traceWith_pulls, traceWith_eq, he, hok]
  obtain ⟨h1, body, p, h2, h3⟩ := stmtLoopTrace_structure step stmts s.enroll 1 hok
  refine ⟨h1, body, p, _, ?_, h3.oneYield, pullsOf_map_yield
    (epilogue { stream := (stmtLoopTrace step s.enroll 1 stmts).2.1 } (classFromDataset s.cls)).frames⟩
  rw [h2, Nat.add_comm 1, List.append_assoc]
  rfl

/-- Two state machines advanced in the interleaving `sched` (`true`: the first machine takes its next input); a
    turn given to a machine that has no input left does nothing. -/
def runInterleaved {σ₁ σ₂ ι₁ ι₂ ω₁ ω₂ : Type} (f₁ : σ₁ → ι₁ → σ₁ × ω₁) (f₂ : σ₂ → ι₂ → σ₂ × ω₂) :
    List Bool → σ₁ × List ι₁ × List ω₁ → σ₂ × List ι₂ × List ω₂ → (σ₁ × List ω₁) × (σ₂ × List ω₂)
  | [], (s₁, _, o₁), (s₂, _, o₂) => ((s₁, o₁), (s₂, o₂))
  | true :: sch, (s₁, i :: is, o₁), m₂ =>
    let (s₁', o) := f₁ s₁ i
    runInterleaved f₁ f₂ sch (s₁', is, o₁ ++ [o]) m₂
  | true :: sch, (s₁, [], o₁), m₂ => runInterleaved f₁ f₂ sch (s₁, [], o₁) m₂
  | false :: sch, m₁, (s₂, i :: is, o₂) =>
    let (s₂', o) := f₂ s₂ i
    runInterleaved f₁ f₂ sch m₁ (s₂', is, o₂ ++ [o])
  | false :: sch, m₁, (s₂, [], o₂) => runInterleaved f₁ f₂ sch m₁ (s₂, [], o₂)

def runAlone {σ ι ω : Type} (f : σ → ι → σ × ω) : σ → List ι → List ω → σ × List ω
  | s, [], o => (s, o)
  | s, i :: is, o => let (s', x) := f s i; runAlone f s' is (o ++ [x])

/-- Generalisation of `C12_isolation` to machines in the middle of their run. -/
theorem runInterleaved_eq_runAlone {σ₁ σ₂ ι₁ ι₂ ω₁ ω₂ : Type} (f₁ : σ₁ → ι₁ → σ₁ × ω₁)
    (f₂ : σ₂ → ι₂ → σ₂ × ω₂) (sched : List Bool) (s₁ : σ₁) (s₂ : σ₂) (w₁ : List ι₁) (w₂ : List ι₂)
    (o₁ : List ω₁) (o₂ : List ω₂)
    (h₁ : w₁.length ≤ sched.count true) (h₂ : w₂.length ≤ sched.count false) :
    runInterleaved f₁ f₂ sched (s₁, w₁, o₁) (s₂, w₂, o₂) = (runAlone f₁ s₁ w₁ o₁, runAlone f₂ s₂ w₂ o₂) := by
  induction sched generalizing s₁ s₂ w₁ w₂ o₁ o₂ with
  | nil =>
    simp only [List.count_nil, Nat.le_zero_eq, List.length_eq_zero_iff] at h₁ h₂
    subst h₁ h₂
    rfl
  | cons b sch ih =>
    cases b with
    | true =>
      simp only [List.count_cons_self, List.count_cons_of_ne (by decide : true ≠ false)] at h₁ h₂
      cases w₁ with
      | nil =>
        rw [runInterleaved]
        exact ih s₁ s₂ [] w₂ o₁ o₂ (Nat.zero_le _) h₂
      | cons i is =>
        rw [runInterleaved, runAlone]
        exact ih _ s₂ is w₂ _ o₂ (by simpa using h₁) h₂
    | false =>
      simp only [List.count_cons_self, List.count_cons_of_ne (by decide : false ≠ true)] at h₁ h₂
      cases w₂ with
      | nil =>
        rw [runInterleaved]
        exact ih s₁ s₂ w₁ [] o₁ o₂ h₁ (Nat.zero_le _)
      | cons i is =>
        rw [runInterleaved, runAlone]
        exact ih s₁ _ w₁ is o₁ _ h₁ (by simpa using h₂)

/-- C12. Two independent state machines advanced in any interleaving that gives each machine at least as many
    turns as it has inputs reach the states and produce the outputs they would have produced alone. -/
theorem C12_isolation {σ₁ σ₂ ι₁ ι₂ ω₁ ω₂ : Type} (f₁ : σ₁ → ι₁ → σ₁ × ω₁) (f₂ : σ₂ → ι₂ → σ₂ × ω₂)
    (sched : List Bool) (s₁ : σ₁) (s₂ : σ₂) (w₁ : List ι₁) (w₂ : List ι₂)
    (h₁ : w₁.length ≤ sched.count true) (h₂ : w₂.length ≤ sched.count false) :
    runInterleaved f₁ f₂ sched (s₁, w₁, []) (s₂, w₂, []) = (runAlone f₁ s₁ w₁ [], runAlone f₂ s₂ w₂ []) :=
  runInterleaved_eq_runAlone f₁ f₂ sched s₁ s₂ w₁ w₂ [] [] h₁ h₂

end Jelly
