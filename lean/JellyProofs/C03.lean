import JellyModel.SerGeneric
import JellyModel.Spec
import JellyModel.WF
import JellyProofs.Lemmas.StreamSim
/-!
# C03 — every emitted stream is valid Jelly for an independent decoder (row level)
# (C01, C18, C19 are corollaries / companions of the same simulation)

`Spec.runRows` is the reference decoder written from the format rules; it shares no code with the
writer model. `Run.allRows'` (`Lemmas/SerFlow.lean`) is the row sequence of a run: the frames handed out,
concatenated, and what is still in the flow (the same list as `Run.allRows` of C06, which by
`C06_rows_independent_of_flow` does not depend on the frame flow).
-/
namespace Jelly

/-- TRIPLES. For every TripleStream that can be constructed, and every sequence of well-formed
    triples each of which fits the lookup tables: serialization succeeds, and the rows written are
    accepted by the reference decoder and denote exactly the input sequence (same length, order and
    duplicates; xsd:string ≡ plain). -/
theorem C03_triples (o : SerOptions) (s : Stream) (stmts : List (List Term))
    (hs : Stream.new .triple o = .ok s) (hl : validLogical s.logicalType = true)
    (hwf : ∀ t ∈ stmts, tripleWF t = true) (hfit : ∀ t ∈ stmts, stmtFits o.preset t = true) :
    (streamFrames s (.gen stmts)).err = none ∧
    ∃ st, Spec.runRows (streamFrames s (.gen stmts)).allRows'
            = (st, stmts.map (fun t => Event.stmt (t.map Term.norm)), none) :=
  stream_sim .triple o s (.gen stmts) hs hl (fun _ h => nomatch h) hwf hfit

theorem C03_quads (o : SerOptions) (s : Stream) (stmts : List (List Term))
    (hs : Stream.new .quad o = .ok s) (hl : validLogical s.logicalType = true)
    (hwf : ∀ t ∈ stmts, quadWF t = true) (hfit : ∀ t ∈ stmts, stmtFits o.preset t = true) :
    (streamFrames s (.gen stmts)).err = none ∧
    ∃ st, Spec.runRows (streamFrames s (.gen stmts)).allRows'
            = (st, stmts.map (fun t => Event.stmt (t.map Term.norm)), none) :=
  stream_sim .quad o s (.gen stmts) hs hl (fun _ h => nomatch h) hwf hfit

/-- GRAPHS (GraphStream fed with a quad sequence; runs of equal graph names become one bracketed
    graph). -/
theorem C03_graphs (o : SerOptions) (s : Stream) (stmts : List (List Term))
    (hs : Stream.new .graph o = .ok s) (hl : validLogical s.logicalType = true)
    (hwf : ∀ t ∈ stmts, quadWF t = true) (hfit : ∀ t ∈ stmts, stmtFits o.preset t = true) :
    (streamFrames s (.gen stmts)).err = none ∧
    ∃ st, Spec.runRows (streamFrames s (.gen stmts)).allRows'
            = (st, stmts.map (fun t => Event.stmt (t.map Term.norm)), none) :=
  stream_sim .graph o s (.gen stmts) hs hl (fun _ h => nomatch h) hwf hfit

end Jelly
