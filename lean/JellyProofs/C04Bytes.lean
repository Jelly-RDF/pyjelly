import JellyModel
import JellyProofs.C04
import JellyProofs.C07
import JellyProofs.C08
import JellyProofs.C10
import JellyProofs.C01Bytes
/-!
# C04 / C16 at the byte level (canonical encodings of ANY legal producer), and the liveness corollaries
# of C10 used by C11
-/
namespace Jelly

/-- C04, byte level, delimited: for ANY list of frames (any producer: arbitrary eviction policy, split
    points, explicit or zero ids, redundant entries, empty frames anywhere — including before the frame
    that carries the options row) whose concatenated rows the reference decoder accepts with denotation
    `evs`, written in canonical delimited form, the model of pyjelly's flat parser returns exactly `evs`. -/
theorem C04_bytes_delimited (fs : List Frame) (o : Options) (rest : List Row) (st : Spec.State) (evs : List Event)
    (henc : framesEncodable fs)
    (hrows : fs.flatMap (·.rows) = .options o :: rest)
    (hsz : o.maxNames ≤ MAX_LOOKUP_SIZE ∧ o.maxPrefixes ≤ MAX_LOOKUP_SIZE ∧ o.maxDatatypes ≤ MAX_LOOKUP_SIZE)
    (hvalid : Spec.runRows (fs.flatMap (·.rows)) = (st, evs, none))
    (h3 : 3 ≤ (fs.flatMap writeDelimited).length) :
    parseFlat .seekable (fs.flatMap writeDelimited) false true = { events := evs, err := none } := by
  -- `h3` is not needed: the frame that carries the options row has three bytes by itself (`opened_of_frames`)
  have _ := h3
  exact parseFlat_of_frames (delimited := true) ⟨hrows, henc, nofun⟩ (parseFrames_of_spec true hrows hsz hvalid)

/-- C04, byte level, non-delimited: one bare frame. -/
theorem C04_bytes_single (f : Frame) (o : Options) (rest : List Row) (st : Spec.State) (evs : List Event)
    (henc : framesEncodable [f])
    (hrows : f.rows = .options o :: rest)
    (hsz : o.maxNames ≤ MAX_LOOKUP_SIZE ∧ o.maxPrefixes ≤ MAX_LOOKUP_SIZE ∧ o.maxDatatypes ≤ MAX_LOOKUP_SIZE)
    (hvalid : Spec.runRows f.rows = (st, evs, none)) :
    parseFlat .seekable (writeSingle f) false true = { events := evs, err := none } := by
  have hrows' : [f].flatMap (·.rows) = .options o :: rest := by simpa using hrows
  have h := parseFlat_of_frames (delimited := false)
    ⟨hrows', henc, fun _ => by simpa [writeSingle] using henc.2.2⟩
    (parseFrames_of_spec false hrows' hsz (by simpa using hvalid))
  simpa using h

/-- C16, frames level: a catalogued violation at some row of some frame makes the flat parse raise,
    having yielded exactly the denotation of the valid prefix (whatever the frame cuts). -/
theorem C16_frames (fs : List Frame) (o : Options) (pre : List Row) (r : Row) (post : List Row)
    (st : Spec.State) (evs : List Event) (v : Spec.Violation) (delimited : Bool)
    (hrows : fs.flatMap (·.rows) = .options o :: pre ++ r :: post)
    (hsz : o.maxNames ≤ MAX_LOOKUP_SIZE ∧ o.maxPrefixes ≤ MAX_LOOKUP_SIZE ∧ o.maxDatatypes ≤ MAX_LOOKUP_SIZE)
    (hpre : Spec.runRows (.options o :: pre) = (st, evs, none))
    (hviol : Spec.step st r = .error v) (hcat : v.catalogued = true) :
    ∃ opts adapter d0 e,
      optionsFromFrame { rows := .options o :: pre ++ r :: post } delimited = .ok opts ∧
      adapterFor opts.physical = .ok adapter ∧
      DecState.new opts adapter = .ok d0 ∧
      (decodeFrames true d0 fs []).1.flatten ++ (decodeFrames true d0 fs []).2.1 = evs ∧
      (decodeFrames true d0 fs []).2.2 = some e := by
  obtain ⟨opts, adapter, d0, d, e, ho, ha, hd, hdec⟩ :=
    C16_rejects_at_offending_row o pre r post st evs v delimited hsz hpre hviol hcat
  obtain ⟨h1, h2⟩ := C07_frames_eq_rows true d0 fs
  rw [hrows, hdec] at h1 h2
  exact ⟨opts, adapter, d0, e, ho, ha, hd, h1, h2⟩

/-- C10 corollary: every statement of every fully delivered frame is delivered. If the bytes received
    so far (`b1`, at least 3 of them, detected as delimited) are followed by anything at all — more
    frames, a partial frame, garbage — what the parser yields from `b1` alone is a prefix of what it
    yields from `b1 ++ b2`. -/
theorem C10_complete_frames_delivered (b1 b2 : Bytes) (h3 : 3 ≤ b1.length)
    (hd : delimitedHint (b1.take 3) = true) (strict quoted : Bool) :
    (parseFlat .seekable b1 strict quoted).events <+: (parseFlat .seekable (b1 ++ b2) strict quoted).events :=
  parseFlat_events_append b1 b2 hd (by rw [List.take_append_of_le_length h3]; exact hd) strict quoted

/-- C11 parse side (liveness): the same on a raw non-seekable source under ANY read schedule: the
    statements of the frames that have arrived are yielded before any byte that has not arrived is
    needed (the parser is a deterministic sequential reader: what it yields before asking for byte
    |b1|+1 is what it yields from `b1` alone). -/
theorem C11_parse_live (b1 b2 : Bytes) (sched : List Nat) (h3 : 3 ≤ b1.length)
    (hd : delimitedHint (b1.take 3) = true) (strict quoted : Bool) :
    (parseFlat (.rawNonSeekable sched) b1 strict quoted).events <+:
      (parseFlat (.rawNonSeekable sched) (b1 ++ b2) strict quoted).events := by
  rw [(C09_schedule_independent b1 sched strict quoted).1, (C09_schedule_independent (b1 ++ b2) sched strict quoted).1]
  exact C10_complete_frames_delivered b1 b2 h3 hd strict quoted

end Jelly
