import JellyModel.Decode
import JellyModel.Spec
import JellyModel.Parse
import JellyProofs.Lemmas.DecoderRefines
/-!
# C04 — every valid Jelly stream decodes to exactly the statements it encodes
# C16 — spec-violating streams are rejected, never turned into fabricated data

`Spec.runRows` is the reference decoder (validity + denotation) written from the format rules;
`DecState.decodeRows` is the model of pyjelly's `Decoder` driven by the generic adapters.
The theorem quantifies over ALL row sequences, which covers every legal producer (any eviction
policy, split point, explicit-vs-zero ids, early/redundant entries, use or non-use of repeats).
-/
namespace Jelly

/-- C04 (row level). If the rules accept a row sequence that starts with an options row `o`
    (tables within what the reader supports) and say it denotes `evs`, then pyjelly's decoder,
    set up from that first row exactly as `get_options_and_frames` + `parse_jelly_flat` do, delivers
    exactly `evs`, in order, without raising. -/
theorem C04_decoder_refines_spec (o : Options) (rest : List Row) (st : Spec.State) (evs : List Event)
    (delimited : Bool)
    (hsz : o.maxNames ≤ MAX_LOOKUP_SIZE ∧ o.maxPrefixes ≤ MAX_LOOKUP_SIZE ∧ o.maxDatatypes ≤ MAX_LOOKUP_SIZE)
    (h : Spec.runRows (.options o :: rest) = (st, evs, none)) :
    ∃ opts adapter d0 d,
      optionsFromFrame { rows := .options o :: rest } delimited = .ok opts ∧
      adapterFor opts.physical = .ok adapter ∧
      DecState.new opts adapter = .ok d0 ∧
      d0.decodeRows true (.options o :: rest) [] = (d, evs, none) := by
  obtain ⟨hc, hrun⟩ := runRows_header h
  obtain ⟨d0, ho, ha, hd, hdec⟩ := decoder_refines hc hsz rest delimited
  rw [hrun] at hdec
  obtain ⟨d, hdec⟩ := hdec
  exact ⟨_, _, d0, d, ho, ha, hd, hdec⟩

/-- The catalogue of property C16: the classes the harness injects (`VIOLATIONS` in `harness/refenc.py`). Once the
    options are set `Spec.step` produces no header class, so those are idle in `C16_rejects_at_offending_row`;
    `C16_bad_header_rejected` treats the header on the fields, a name table below 8 included. `badTypePair` and
    `versionZero` are in no catalogue: pyjelly accepts version 0 and some pairs the rules forbid
    (`validateTypes 2 5 = .ok ()`). -/
def Spec.Violation.catalogued : Spec.Violation → Bool
  | .entryIdOutOfRange | .nameRefOutOfRange | .nameRefUnfilled | .prefixRefOutOfRange
  | .prefixRefUnfilled | .datatypeRefZero | .datatypeRefOutOfRange | .datatypeRefUnfilled
  | .repeatedWithoutPrevious | .repeatedInQuoted | .rowKindForbidden | .tripleOutsideGraph
  | .versionTooNew | .badPhysicalType | .noOptionsFirst | .graphStartWithoutTerm | .emptyRow => true
  | _ => false

/-- C16 (row level, violations after a valid options row). If the rules accept `pre` (starting
    with the options row `o`) with denotation `evs` and reject the next row `r` with a catalogued
    class, then pyjelly's decoder delivers exactly `evs` for the valid prefix and raises AT the
    offending row: no event is ever produced from it. -/
theorem C16_rejects_at_offending_row (o : Options) (pre : List Row) (r : Row) (post : List Row)
    (st : Spec.State) (evs : List Event) (v : Spec.Violation) (delimited : Bool)
    (hsz : o.maxNames ≤ MAX_LOOKUP_SIZE ∧ o.maxPrefixes ≤ MAX_LOOKUP_SIZE ∧ o.maxDatatypes ≤ MAX_LOOKUP_SIZE)
    (hpre : Spec.runRows (.options o :: pre) = (st, evs, none))
    (hviol : Spec.step st r = .error v) (hcat : v.catalogued = true) :
    ∃ opts adapter d0 d e,
      optionsFromFrame { rows := .options o :: pre ++ r :: post } delimited = .ok opts ∧
      adapterFor opts.physical = .ok adapter ∧
      DecState.new opts adapter = .ok d0 ∧
      d0.decodeRows true (.options o :: pre ++ r :: post) [] = (d, evs, some e) := by
  obtain ⟨hc, hrun⟩ := runRows_header hpre
  have hv : v.rejected = true := by
    cases v <;> first | rfl | cases hcat
  obtain ⟨d0, ho, ha, hd, hdec⟩ := decoder_refines hc hsz (pre ++ r :: post) delimited
  -- the rules stop at `r`
  rw [Spec.run_append, hrun] at hdec
  simp only [Spec.run, hviol] at hdec
  obtain ⟨d, e, hdec⟩ := hdec hv
  exact ⟨_, _, d0, d, e, ho, ha, hd, hdec⟩

/-- C16 (violations in the header). A stream whose first row is not an acceptable options row
    (missing options row, unsupported physical type, version newer than supported, name table
    smaller than 8, table larger than 4096) never yields a single event from the flat parser. -/
theorem C16_bad_header_rejected (first : Row) (rest : List Row) (delimited : Bool)
    (h : (∀ o, first ≠ .options o) ∨
         (∃ o, first = .options o ∧
            (o.physicalType = 0 ∨ 3 < o.physicalType ∨ 2 < o.version ∨ o.maxNames < 8 ∨
             MAX_LOOKUP_SIZE < o.maxNames ∨ MAX_LOOKUP_SIZE < o.maxPrefixes ∨ MAX_LOOKUP_SIZE < o.maxDatatypes))) :
    (∃ e, optionsFromFrame { rows := first :: rest } delimited = .error e) ∨
    (∃ opts, optionsFromFrame { rows := first :: rest } delimited = .ok opts ∧
      ((∃ e, adapterFor opts.physical = .error e) ∨
       (∃ adapter, adapterFor opts.physical = .ok adapter ∧
          ((∃ e, DecState.new opts adapter = .error e) ∨
           (∃ d0 d e, DecState.new opts adapter = .ok d0 ∧
              d0.decodeRows true (first :: rest) [] = (d, [], some e)))))) := by
  rcases h with h | ⟨o, rfl, hbad⟩
  · exact .inl ⟨_, optionsFromFrame_nonOptions rfl h _⟩
  · cases hof : optionsFromFrame { rows := .options o :: rest } delimited with
    | error e => exact .inl ⟨e, rfl⟩
    | ok opts =>
      refine .inr ⟨opts, rfl, ?_⟩
      obtain ⟨hopts, hn⟩ := optionsFromFrame_inv rfl hof
      cases had : adapterFor opts.physical with
      | error e => exact .inl ⟨e, rfl⟩
      | ok adapter =>
        refine .inr ⟨adapter, rfl, ?_⟩
        have hp : o.physicalType = 1 ∨ o.physicalType = 2 ∨ o.physicalType = 3 := by
          rw [hopts] at had
          exact adapterFor_inv had
        cases hnew : DecState.new opts adapter with
        | error e => exact .inl ⟨e, rfl⟩
        | ok d0 =>
          obtain ⟨h0, s1, s2, s3⟩ := DecState.new_inv hnew
          rw [hopts] at h0 s1 s2 s3
          have hv : 2 < o.version := by
            simp only [parserOptionsOf] at s1 s2 s3
            omega
          exact .inr ⟨d0, d0, _, rfl, by rw [DecState.decodeRows, DecState.decodeRow_newer true (by rw [h0]) hv]⟩

end Jelly
