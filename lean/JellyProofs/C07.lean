import JellyModel.Parse
import JellyProofs.Lemmas.Framing
import JellyProofs.Lemmas.GroupedFlow
/-!
# C07 — frame boundaries never change content; grouped I/O is one sink per frame

The letters (a)–(c) are the clauses of DESIGN.md §6 C07; clause (d) is `C07Grouped.lean`.
-/
namespace Jelly

/-- (a) Decoding a list of frames with one decoder equals decoding the concatenation of their
    rows: same events in the same order, same error (or none). Empty frames and frame metadata
    play no role. -/
theorem C07_frames_eq_rows (quoted : Bool) (d : DecState) (frames : List Frame) :
    (decodeFrames quoted d frames []).1.flatten ++ (decodeFrames quoted d frames []).2.1
        = (d.decodeRows quoted (frames.flatMap (·.rows)) []).2.1 ∧
    (decodeFrames quoted d frames []).2.2 = (d.decodeRows quoted (frames.flatMap (·.rows)) []).2.2 := by
  simpa using decodeFrames_eq_rows quoted d frames []

/-- (a') Hence any two partitions of the same row sequence into frames decode alike. -/
theorem C07_repartition (quoted : Bool) (d : DecState) (fs₁ fs₂ : List Frame)
    (h : fs₁.flatMap (·.rows) = fs₂.flatMap (·.rows)) :
    (decodeFrames quoted d fs₁ []).1.flatten ++ (decodeFrames quoted d fs₁ []).2.1
      = (decodeFrames quoted d fs₂ []).1.flatten ++ (decodeFrames quoted d fs₂ []).2.1 ∧
    (decodeFrames quoted d fs₁ []).2.2 = (decodeFrames quoted d fs₂ []).2.2 := by
  obtain ⟨a1, a2⟩ := decodeFrames_eq_rows quoted d fs₁ []
  obtain ⟨b1, b2⟩ := decodeFrames_eq_rows quoted d fs₂ []
  rw [a1, a2, b1, b2, h]
  exact ⟨rfl, rfl⟩

/-- (b) Grouped parsing: when nothing fails there is exactly one group per frame, in order, and
    the concatenation of the groups is the flat result. -/
theorem C07_grouped_one_per_frame (quoted : Bool) (d : DecState) (frames : List Frame)
    (h : (decodeFrames quoted d frames []).2.2 = none) :
    (decodeFrames quoted d frames []).1.length = frames.length ∧
    (decodeFrames quoted d frames []).1.flatten = (d.decodeRows quoted (frames.flatMap (·.rows)) []).2.1 := by
  obtain ⟨l1, l2⟩ := decodeFrames_ok_length quoted d frames [] h
  obtain ⟨a1, _⟩ := decodeFrames_eq_rows quoted d frames []
  rw [l2] at a1
  refine ⟨by simpa using l1, ?_⟩
  simpa using a1

/-- (b') The grouped and flat entry points agree on every byte string and every source kind:
    the statements of the sinks, concatenated, are the statements of the flat parse whenever the
    flat parse ends normally. -/
theorem C07_grouped_concat_eq_flat (kind : SourceKind) (b : Bytes) (quoted : Bool)
    (h : (parseFlat kind b false quoted).err = none) :
    (parseGrouped kind b false quoted).err = none ∧
    (parseGrouped kind b false quoted).sinks.flatMap (·.store)
      = (parseFlat kind b false quoted).events.filterMap
          (fun ev => match ev with | .stmt ts => some ts | .ns _ _ => none) := by
  have hg1 : (fun l => !false || strictFlatOk l) = (fun _ : Nat => true) := by funext l; simp
  have hg2 : (fun l => !false || strictGroupedOk l) = (fun _ : Nat => true) := by funext l; simp
  have hf : (fun ev : Event => match ev with | .stmt ts => some ts | .ns _ _ => none) = Event.stmt? := by
    funext ev; cases ev <;> rfl
  rw [hf]
  unfold parseFlat at h ⊢
  unfold parseGrouped
  simp only [hg1, hg2] at h ⊢
  have hp := parseCore_ok_partial quoted kind b (fun _ => true)
  rcases hc : parseCore quoted kind b (fun _ => true) with ⟨done, part, err⟩
  rw [hc] at h hp
  simp only [] at h hp ⊢
  subst h
  rw [hp rfl, List.append_nil]
  exact ⟨rfl, sinks_store_flatten done⟩

/-- (c) Grouped serialization with a grouped flow (GRAPHS logical type on a TripleStream, DATASETS
    on a QuadStream): an enrolled stream with an empty flow turns one non-empty sink into exactly
    one frame and is left with an empty flow again (so the next sink gets its own frame). `hflow` and `henr`
    are not used (see the proof). -/
theorem C07_one_frame_per_nonempty_sink (s : Stream) (sk : Sink)
    (hk : (s.cls = .triple ∧ s.flow.kind = .graphs) ∨ (s.cls = .quad ∧ s.flow.kind = .datasets))
    (hflow : s.flow.rows = []) (henr : s.enrolled = true) (hne : sk.store ≠ [])
    (hok : (streamFrames s (.sink sk)).err = none) :
    (streamFrames s (.sink sk)).frames.length = 1 ∧
    (streamFrames s (.sink sk)).stream.flow.rows = [] ∧
    (streamFrames s (.sink sk)).stream.enrolled = true ∧
    (streamFrames s (.sink sk)).stream.flow.kind = s.flow.kind ∧
    (streamFrames s (.sink sk)).stream.cls = s.cls := by
  -- `hflow` and `henr` are not needed: whatever rows are pending end up in the one frame as well, and the
  -- prologue enrolls a stream that is not enrolled (its options row then goes into the same frame).
  have _ := hflow
  have _ := henr
  have hkeep := streamFrames_keeps s (.sink sk)
  refine ⟨?_, streamFrames_flow_rows _ _ hok, ?_, hkeep.kind, hkeep.cls⟩
  · rw [streamFrames_exec, streamCmds] at hok ⊢
    have hkind := s.enroll_keeps.kind
    rcases hk with ⟨hc, hk⟩ | ⟨hc, hk⟩ <;> rw [hc] at hok ⊢
    · exact Run.exec_grouped (tripleOp_writes _) (prologueCmds_quiet _ _) false s.enroll (hkind.trans hk) hne hok
    · exact Run.exec_grouped (quadOp_writes _) (prologueCmds_quiet _ _) true s.enroll (hkind.trans hk) hne hok
  · exact (streamFrames_flat s _).enrolled.trans s.enroll_enrolled

/-- Known finding `C07-metadata-only-first-frame-of-10-bytes`, checked by the kernel on the model: the same two
    frames — a leading frame that carries only metadata, then an options row and one triple — parse to the triple
    when the leading frame is 9 bytes long, and fail with `DecodeError` when it is 10 bytes long (the stream then
    begins `0A 7A`, which the three-byte detector reads as a non-delimited frame). The byte-level theorems
    (`C08_hint_delimited`, `C01_*_bytes`, `C04_bytes_*`) carry the hypothesis that excludes it: the first frame is
    empty or starts with a row. -/
theorem C07_known_metadata_only_first_frame :
    ((parseFlat .seekable [9, 122, 7, 10, 1, 107, 18, 2, 109, 109,
        23, 10, 8, 10, 6, 16, 1, 72, 8, 120, 1, 10, 11, 18, 9, 18, 1, 97, 50, 1, 98, 82, 1, 99]).err = none ∧
     (parseFlat .seekable [9, 122, 7, 10, 1, 107, 18, 2, 109, 109,
        23, 10, 8, 10, 6, 16, 1, 72, 8, 120, 1, 10, 11, 18, 9, 18, 1, 97, 50, 1, 98, 82, 1, 99]).events.length = 1) ∧
    (parseFlat .seekable [10, 122, 8, 10, 1, 107, 18, 3, 109, 109, 109,
        23, 10, 8, 10, 6, 16, 1, 72, 8, 120, 1, 10, 11, 18, 9, 18, 1, 97, 50, 1, 98, 82, 1, 99]).err
      = some .decodeError := by
  decide +kernel

end Jelly
