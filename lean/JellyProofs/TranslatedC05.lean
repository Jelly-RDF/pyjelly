import JellyModel.Joint
import JellyProofs.C05
import JellyProofs.Translated
/-!
# Property C05 for the translated lookup classes

`jointStepGen` / `jointRunGen` / `jointInitGen` are the model's joint writer–reader run (`JellyModel/Joint.lean`) with
every call into the lookup classes replaced by the method translated from the sources on this run
(`JellyGenerated/LookupGen.lean`). By the equalities of `Translated.lean` they are the model's, so `C05_translated`
restates property C05 directly for the translated code.
-/
namespace Jelly.Translated
open Jelly Jelly.Py

def _root_.Jelly.Rule.genEnc : Rule → String → M LookupEnc Nat
  | .name => Gen.LookupEncoder.encode_name_term_index
  | .prefix => Gen.LookupEncoder.encode_prefix_term_index
  | .datatype => Gen.LookupEncoder.encode_datatype_term_index

/-- `decode_datatype_term_index` is declared `-> str | None`; a `None` datatype is not a string -/
def optStr (r : LookupDec × Except PyErr (Option String)) : LookupDec × Except PyErr String :=
  (r.1, match r.2 with
        | .ok (some s) => .ok s
        | .ok none => .error .typeError
        | .error e => .error e)

def _root_.Jelly.Rule.genDec (rule : Rule) (d : LookupDec) (idx : Nat) : LookupDec × Except PyErr String :=
  match rule with
  | .name => swap ((Gen.LookupDecoder.decode_name_term_index idx).exec d)
  | .prefix => swap ((Gen.LookupDecoder.decode_prefix_term_index idx).exec d)
  | .datatype => optStr (swap ((Gen.LookupDecoder.decode_datatype_term_index idx).exec d))

/-- `jointStep` with every call into the lookup classes replaced by the TRANSLATED method -/
def jointStepGen (rule : Rule) (st : LookupEnc × LookupDec) (k : String) :
    Except JointFail ((LookupEnc × LookupDec) × JointOut) :=
  let (enc, dec) := st
  let entryStep : Except JointFail (LookupEnc × LookupDec × Option Nat) :=
    if enc.lookup.maxSize == 0 then .ok (enc, dec, none)
    else
      match outcome ((Gen.LookupEncoder.encode_entry_index k).exec enc) with
      | .error e => .error ⟨none, none, e⟩
      | .ok (enc', none) => .ok (enc', dec, none)
      | .ok (enc', some id) =>
        match (Gen.LookupDecoder.assign_entry id k).exec dec with
        | (.error e, _) => .error ⟨some id, none, e⟩
        | (.ok _, dec') => .ok (enc', dec', some id)
  match entryStep with
  | .error f => .error f
  | .ok (enc1, dec1, entry) =>
    match outcome ((rule.genEnc k).exec enc1) with
    | .error e => .error ⟨entry, none, e⟩
    | .ok (enc2, idx) =>
      match rule.genDec dec1 idx with
      | (_, .error e) => .error ⟨entry, some idx, e⟩
      | (dec2, .ok s) => .ok ((enc2, dec2), ⟨entry, idx, s⟩)

def jointRunGen (rule : Rule) : LookupEnc × LookupDec → List String → List JointOut →
    (LookupEnc × LookupDec) × List JointOut × Option JointFail
  | st, [], acc => (st, acc, none)
  | st, k :: ks, acc =>
    match jointStepGen rule st k with
    | .error f => (st, acc, some f)
    | .ok (st', o) => jointRunGen rule st' ks (acc ++ [o])

def jointInitGen (size : Nat) : Except PyErr (LookupEnc × LookupDec) :=
  match construct (Gen.LookupDecoder.__init__ size) with
  | .error e => .error e
  | .ok d =>
    match construct (Gen.LookupEncoder.__init__ size) with
    | .error e => .error e
    | .ok e => .ok (e, d)

theorem genEnc_eq (rule : Rule) (e : LookupEnc) (k : String) :
    outcome ((rule.genEnc k).exec e) = rule.encTerm e k := by
  cases rule
  · exact name_term_index_eq e k
  · exact prefix_term_index_eq e k
  · exact datatype_term_index_eq e k

theorem genDec_eq (rule : Rule) (d : LookupDec) (idx : Nat) : rule.genDec d idx = rule.decTerm d idx := by
  cases rule
  · exact decode_name_eq d idx
  · exact decode_prefix_eq d idx
  · simp only [Rule.genDec, Rule.decTerm, decode_datatype_eq, optStr]
    rcases d.datatypeTerm idx with ⟨d', r⟩
    cases r <;> rfl

theorem jointStepGen_eq (rule : Rule) (enc : LookupEnc) (dec : LookupDec) (k : String)
    (hne : enc.lookup.evicting = true → enc.lookup.data ≠ []) :
    jointStepGen rule (enc, dec) k = jointStep rule (enc, dec) k := by
  simp only [jointStepGen, jointStep, entry_index_eq enc k hne, genEnc_eq, genDec_eq]
  congr 1
  split
  · rfl
  · -- refused, a hit, or an entry: only an entry that is sent reaches the reader's `assign_entry`
    rcases enc.entryIndex k with _ | ⟨enc', _ | id⟩
    · rfl
    · rfl
    · simp only [← assign_entry_eq]
      rcases (Gen.LookupDecoder.assign_entry id k).exec dec with ⟨_ | _, _⟩ <;> rfl

theorem jointRunGen_eq (rule : Rule) (ks : List String) :
    ∀ (st : LookupEnc × LookupDec) (acc : List JointOut), JointInv st.1 st.2 →
      jointRunGen rule st ks acc = jointRun rule st ks acc := by
  induction ks with
  | nil => intro st acc _; rfl
  | cons k ks ih =>
    intro st acc inv
    obtain ⟨e, d⟩ := st
    obtain ⟨e', d', o, hstep, inv', _⟩ := jointStep_spec rule inv k
    have hg := jointStepGen_eq rule e d k inv.mirror.wf.evicting_nonempty
    simp only [jointRunGen, jointRun, hg, hstep]
    exact ih (e', d') (acc ++ [o]) inv'

theorem jointInitGen_eq (size : Nat) : jointInitGen size = jointInit size := by
  simp only [jointInitGen, jointInit, lookup_dec_new, lookup_enc_new]
  cases LookupDec.new size <;> rfl

/-- **Property C05, stated for the code translated from the sources on this run.** For every table size the
    reader supports, every index rule and every finite key history, run through the TRANSLATED
    `LookupEncoder` / `LookupDecoder` methods (constructors included): nothing raises, every index put on the
    wire — the zero forms included — is resolved by the reader to exactly the key the writer meant, the writer
    never holds more than `size` live entries, and every emitted id lies in `[0, size]`. -/
theorem C05_translated (rule : Rule) (size : Nat) (hs : 1 ≤ size) (hle : size ≤ MAX_LOOKUP_SIZE)
    (ks : List String) :
    ∃ st0, jointInitGen size = .ok st0 ∧
      (jointRunGen rule st0 ks []).2.2 = none ∧
      (jointRunGen rule st0 ks []).2.1.map (·.resolved) = ks ∧
      (jointRunGen rule st0 ks []).1.1.lookup.data.length ≤ size ∧
      (∀ o ∈ (jointRunGen rule st0 ks []).2.1, o.idx ≤ size ∧ ∀ id, o.entry = some id → id ≤ size) := by
  have hnot : ¬ size > MAX_LOOKUP_SIZE := by omega
  have hinit : jointInit size = .ok (LookupEnc.new size, { size := size, data := List.replicate size none }) := by
    simp only [jointInit, LookupDec.new, hnot, if_false]
  refine ⟨(LookupEnc.new size, { size := size, data := List.replicate size none }), ?_, ?_⟩
  · rw [jointInitGen_eq, hinit]
  · rw [jointRunGen_eq rule ks _ [] (JointInv.init hs)]
    obtain ⟨st0, h0, h⟩ := C05_mirror_history rule size hs hle ks
    rw [hinit] at h0
    cases h0
    exact h

/-- Non-vacuity: the translated code, evaluated by the kernel on a history with hits, misses and evictions
    (two sequential entries, an eviction reusing id 1, id 2 = previous + 1 sent as 0, a hit, another eviction). -/
example :
    (jointRunGen .name (LookupEnc.new 2, { size := 2, data := [none, none] }) ["a", "b", "c", "a", "a", "b"] []).2.1.map
        (fun o => (o.entry, o.idx, o.resolved))
      = [(some 0, 0, "a"), (some 0, 0, "b"), (some 1, 1, "c"), (some 0, 0, "a"), (none, 2, "a"), (some 1, 1, "b")] := by
  decide +kernel

end Jelly.Translated
