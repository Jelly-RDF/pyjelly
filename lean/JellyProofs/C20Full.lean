import JellyProofs.C18Full
import JellyProofs.Lemmas.CatchSim
/-!
# C20 — a rejected statement never poisons the stream

A caller drives a stream statement by statement and carries on after every exception
(`catchLoop`). Whatever the statements are — unsupported terms, short tuples, typed literals with a
disabled datatype table, statements too big for the tables — what the stream has written is valid
for the reference decoder and denotes exactly the statements whose call returned normally, in order
(provided those are well-formed statements, which is what the writer accepts). Both alternatives the
property allows are covered by the one statement: a rejection that had not used the lookup tables
leaves no trace, and one that had makes the stream refuse everything after it.
-/
namespace Jelly

/-- Catch-and-continue: frames handed out, and the statements whose call returned normally. -/
def catchLoop (step : Stream → List Term → Res Stream (Option Frame)) :
    Stream → List (List Term) → List Frame → List (List Term) → Stream × List Frame × List (List Term)
  | s, [], fr, acc => (s, fr, acc)
  | s, t :: ts, fr, acc =>
    match step s t with
    | (s', .error _) => catchLoop step s' ts fr acc
    | (s', .ok f) => catchLoop step s' ts (fr ++ f.toList) (acc ++ [t])

/-- All rows written by the loop: the frames handed out and what is still in the flow. -/
def catchRows (step : Stream → List Term → Res Stream (Option Frame)) (s : Stream) (stmts : List (List Term)) :
    List Row × List (List Term) :=
  let r := catchLoop step s.enroll stmts [] []
  (r.2.1.flatMap (·.rows) ++ r.1.flow.rows, r.2.2)

theorem catchLoop_cons (op : List Term → EncOp) (s : Stream) (t : List Term) (ts : List (List Term))
    (fr : List Frame) (acc : List (List Term)) :
    catchLoop (stepOf op) s (t :: ts) fr acc =
      catchLoop (stepOf op) (Run.exec { stream := s, frames := fr } (stmtCmds op [t])).stream ts
        (Run.exec { stream := s, frames := fr } (stmtCmds op [t])).frames
        (if (Run.exec { stream := s, frames := fr } (stmtCmds op [t])).err.isSome then acc else acc ++ [t]) := by
  rw [← stmtLoop_exec, stmtLoop_cons, catchLoop]
  rcases stepOf op s t with ⟨s', e | f⟩ <;> rfl

/-- The driver `catchLoop` is the flow-free `catchRun`: same rows, same accepted statements. -/
theorem catchLoop_flat (op : List Term → EncOp) (stmts : List (List Term)) (s : Stream) (fr : List Frame)
    (acc : List (List Term)) :
    rowsOf (catchLoop (stepOf op) s stmts fr acc).2.1 (catchLoop (stepOf op) s stmts fr acc).1
      = rowsOf fr s ++ (catchRun (fun t => stmtCmds op [t]) (fun t es => takenOf op es [t]) s.enc stmts).2.1 ∧
    (catchLoop (stepOf op) s stmts fr acc).2.2
      = acc ++ (catchRun (fun t => stmtCmds op [t]) (fun t es => takenOf op es [t]) s.enc stmts).2.2 := by
  induction stmts generalizing s fr acc with
  | nil => exact ⟨(List.append_nil _).symm, (List.append_nil _).symm⟩
  | cons t ts ih =>
    rw [catchLoop_cons, catchRun]
    generalize hR : Run.exec { stream := s, frames := fr } (stmtCmds op [t]) = R
    have hf : Run.Flat { stream := s, frames := fr } R (flatRun s.enc (stmtCmds op [t])) := hR ▸ Run.exec_flat _ _
    obtain ⟨h1, h2⟩ := ih R.stream R.frames (if R.err.isSome then acc else acc ++ [t])
    have hrows : rowsOf R.frames R.stream = rowsOf fr s ++ (flatRun s.enc (stmtCmds op [t])).2.1 := hf.rows
    rw [h1, h2, hf.enc, hrows, hf.err, List.append_assoc]
    refine ⟨rfl, ?_⟩
    show _ = acc ++ (takenOf op s.enc [t] ++ _)
    rw [flatRun_stmt, takenOf_single]
    rcases (op t s.enc).2 with e | rows
    · rfl
    · exact List.append_assoc _ _ _

theorem catchRows_fresh {cls : StreamClass} {o : SerOptions} {s : Stream} (hs : Stream.new cls o = .ok s)
    (op : List Term → EncOp) (stmts : List (List Term)) :
    catchRows (stepOf op) s stmts =
      ([s.optionsRow] ++ (catchRun (fun t => stmtCmds op [t]) (fun t es => takenOf op es [t]) s.enc stmts).2.1,
       (catchRun (fun t => stmtCmds op [t]) (fun t es => takenOf op es [t]) s.enc stmts).2.2) := by
  obtain ⟨h1, h2⟩ := catchLoop_flat op stmts s.enroll [] []
  rw [s.enroll_enc] at h1 h2
  exact Prod.ext (h1.trans (congrArg (· ++ _) (exec_fresh_rows hs []))) h2

theorem catchLoop_broken (exc : PyErr) :
    ∀ (rest : List (List Term)) (s : Stream) (fr : List Frame) (acc : List (List Term)),
      s.enc.te.broken = true → catchLoop (Stream.triple exc) s rest fr acc = (s, fr, acc) := by
  intro rest
  induction rest with
  | nil => intro s fr acc _; rfl
  | cons t ts ih =>
    intro s fr acc hb
    have hs := (broken_refuses exc s t hb).1
    simp only [catchLoop, hs]
    exact ih s fr acc hb

theorem C20_triples (o : SerOptions) (s : Stream) (stmts : List (List Term))
    (hs : Stream.new .triple o = .ok s) (hl : validLogical s.logicalType = true)
    (hacc : ∀ t ∈ (catchRows (Stream.triple .stopIteration) s stmts).2, tripleWF t = true) :
    ∃ st, Spec.runRows (catchRows (Stream.triple .stopIteration) s stmts).1
            = (st, (catchRows (Stream.triple .stopIteration) s stmts).2.map (fun t => Event.stmt (t.map Term.norm)), none) := by
  rw [Stream.triple_stepOf, catchRows_fresh hs] at hacc ⊢
  exact catchRun_fresh hs hl (catchBlock_triple (Stream.new_spec hs).valid (wireOptions_physical hs) _) stmts hacc

theorem C20_quads (o : SerOptions) (s : Stream) (stmts : List (List Term))
    (hs : Stream.new .quad o = .ok s) (hl : validLogical s.logicalType = true)
    (hacc : ∀ t ∈ (catchRows (Stream.quad .stopIteration) s stmts).2, quadWF t = true) :
    ∃ st, Spec.runRows (catchRows (Stream.quad .stopIteration) s stmts).1
            = (st, (catchRows (Stream.quad .stopIteration) s stmts).2.map (fun t => Event.stmt (t.map Term.norm)), none) := by
  rw [Stream.quad_stepOf, catchRows_fresh hs] at hacc ⊢
  exact catchRun_fresh hs hl (catchBlock_quad (Stream.new_spec hs).valid (wireOptions_physical hs) _) stmts hacc

/-- Once a statement has been rejected after it had used the lookup tables, nothing more is accepted. (`h` only says
    where `s'` comes from: a broken stream stays as it is whatever it is fed, `catchLoop_broken`.) -/
theorem C20_refuses_after_dirty_rejection (s s' : Stream) (t : List Term) (e : PyErr) (rest : List (List Term))
    (h : s.triple .stopIteration t = (s', .error e)) (hb : s'.enc.te.broken = true)
    (fr : List Frame) (acc : List (List Term)) :
    catchLoop (Stream.triple .stopIteration) s' rest fr acc = (s', fr, acc) := by
  have _ := h
  exact catchLoop_broken .stopIteration rest s' fr acc hb

end Jelly
