import JellyModel.Parse
import JellyProofs.Lemmas.Truncation
import JellyProofs.Lemmas.ShortInput
import JellyProofs.Lemmas.DecodeFrame
/-!
# C10 — a truncated stream yields only a correct prefix of the data
# C17 — arbitrary bytes: termination, bounded work, capped tables

A frame read from a cut stream is read from the whole stream, and reading never looks behind what it consumes
(Lemmas/Truncation): so a truncated stream delivers a prefix. Every read consumes input, and a table is allocated
once, at most 4096 slots, and never grows.
-/
namespace Jelly

/-- Framing level, for ARBITRARY bytes: the frames delivered from a stream cut at offset `k` are a
    prefix of the frames delivered from the whole stream (nothing invented, nothing reordered). -/
theorem C10_frames_prefix (b : Bytes) (k : Nat) :
    (restFrames ((b.take k).length + 1) (b.take k) []).1 <+: (restFrames (b.length + 1) b []).1 := by
  have h := restFrames_append_prefix ((b.take k).length + 1) (b.length + 1) (b.take k) (b.drop k) []
    (by omega) (by rw [List.take_append_drop]; omega)
  rw [List.take_append_drop] at h
  exact h

/-- Event level. For any byte string that is detected as delimited and any cut offset `k ≥ 3`: what
    the flat parser yields from the cut stream is a prefix of what it yields from the whole stream.
    Applied twice (to `b` cut at `k`, and to `b` cut at `k` cut again at the end of the last frame
    fully delivered) it gives both halves of C10: nothing is ever yielded that the original does not
    have at that position, and every statement of every fully delivered frame is yielded. -/
theorem C10_events_prefix (b : Bytes) (k : Nat) (hk : 3 ≤ k) (hd : delimitedHint (b.take 3) = true)
    (strict quoted : Bool) :
    (parseFlat .seekable (b.take k) strict quoted).events <+: (parseFlat .seekable b strict quoted).events := by
  have h := parseFlat_events_append (b.take k) (b.drop k) (by rw [List.take_take, Nat.min_eq_left hk]; exact hd)
    (by rw [List.take_append_drop]; exact hd) strict quoted
  rwa [List.take_append_drop] at h

/-- Fewer than three bytes never yield anything (they are routed to the single-frame path, which
    cannot find an options row in them). -/
theorem C10_short_yields_nothing (kind : SourceKind) (b : Bytes) (h : b.length < 3) (strict quoted : Bool) :
    (parseFlat kind b strict quoted).events = [] := by
  rw [parseFlat_eq]
  obtain ⟨e, he⟩ := getOptionsAndFrames_short kind b h
  rw [he]

/-- Bounded work: the number of frames the frame iterator delivers is bounded by the number of input
    bytes (each iteration consumes at least one byte). -/
theorem C17_frames_bounded (b : Bytes) : (restFrames (b.length + 1) b []).1.length ≤ b.length := by
  have := restFrames_length_le (b.length + 1) b []
  simpa using this

/-- Lookup tables are capped: a decoder is only ever created with tables of at most 4096
    slots each, whatever sizes the input declares; larger declarations are refused before
    allocation. -/
theorem C17_tables_capped (opts : ParserOptions) (a : AdapterKind) (d : DecState)
    (h : DecState.new opts a = .ok d) :
    d.names.data.length ≤ 4096 ∧ d.prefixes.data.length ≤ 4096 ∧ d.datatypes.data.length ≤ 4096 ∧
    d.names.data.length = opts.maxNames ∧ d.prefixes.data.length = opts.maxPrefixes ∧
    d.datatypes.data.length = opts.maxDatatypes := by
  obtain ⟨rfl, h1, h2, h3⟩ := DecState.new_inv h
  simp only [Spec.mkTable, List.length_replicate, MAX_LOOKUP_SIZE] at h1 h2 h3 ⊢
  exact ⟨h1, h2, h3, trivial, trivial, trivial⟩

theorem C17_oversized_refused (opts : ParserOptions) (a : AdapterKind)
    (h : 4096 < opts.maxNames ∨ 4096 < opts.maxPrefixes ∨ 4096 < opts.maxDatatypes) :
    DecState.new opts a = .error .jassertion :=
  DecState.new_oversized a h

/-- Decoding never grows a table. -/
theorem C17_tables_never_grow (quoted : Bool) (d d' : DecState) (r : Row) (ev : Option Event)
    (h : d.decodeRow quoted r = .ok (d', ev)) :
    d'.names.data.length = d.names.data.length ∧ d'.prefixes.data.length = d.prefixes.data.length ∧
    d'.datatypes.data.length = d.datatypes.data.length :=
  (DecState.decodeRow_kept h).2.2

end Jelly
