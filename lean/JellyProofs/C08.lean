import JellyModel.Wire
import JellyModel.Parse
import JellyProofs.Lemmas.WireBytes
import JellyProofs.Lemmas.HeaderLoop
/-!
# C08 — delimited vs non-delimited framing is always detected correctly
# C09 — parsing is independent of how the byte source chunks its reads

The detector looks at three bytes: a bare frame starts with `0x0A`, the tag of its first row; a delimited stream
starts with a frame length, and when that length is 10 = `0x0A` the next two bytes decide. A non-seekable source is
read until three bytes are there (Lemmas/HeaderLoop), so the chunking of the transport cannot change the answer.
-/
namespace Jelly

private theorem hint_of_head_ne (h : UInt8) (t : Bytes) (hh : h ≠ 10) (h3 : 3 ≤ (h :: t).length) :
    delimitedHint ((h :: t).take 3) = true := by
  match t, h3 with
  | a :: b :: t', _ => simp [delimitedHint, hh]

private theorem hint_short (l : Bytes) (h : l.length < 3) : delimitedHint l = false :=
  delimitedHint_short l h

private theorem encFrame_cons (f : Frame) (r : Row) (rs : List Row) (hr : f.rows = r :: rs) :
    ∃ tl, encFrame f = 0x0A :: (varint (encRow r).length ++ (encRow r ++ tl)) := by
  refine ⟨(rs.flatMap fun r => lenDelim 1 (encRow r)) ++
    (f.metadata.flatMap fun (k, v) => encMetaEntry k v), ?_⟩
  simp [encFrame, hr, lenDelim_one]

/-- A delimited stream whose first frame is empty or starts with a row is classified as delimited
    from its first three bytes, whatever follows (this includes every frame length — in particular
    the length 10 = 0x0A — and every first-row length). -/
theorem C08_hint_delimited (f : Frame) (rest : Bytes) (hm : f.rows = [] → f.metadata = [])
    (h3 : 3 ≤ (writeDelimited f ++ rest).length) :
    delimitedHint ((writeDelimited f ++ rest).take 3) = true := by
  cases hr : f.rows with
  | nil =>
    have hE : encFrame f = [] := by simp [encFrame, hr, hm hr]
    have hW : writeDelimited f = [0] := by simp [writeDelimited, hE, varint_zero]
    rw [hW] at h3 ⊢
    exact hint_of_head_ne 0 rest (by decide) h3
  | cons r rs =>
    obtain ⟨tl, hE⟩ := encFrame_cons f r rs hr
    obtain ⟨h, t, hv, hh⟩ := varint_cons (encRow r).length
    obtain ⟨h', t', hv', hh'⟩ := varint_cons (encFrame f).length
    have hW : writeDelimited f ++ rest = h' :: (t' ++ encFrame f ++ rest) := by
      simp [writeDelimited, hv']
    by_cases hL : (encFrame f).length = 10
    · have hlen := hL
      rw [hE, hv] at hlen
      simp only [List.length_cons, List.length_append] at hlen
      have hn : h ≠ 10 := by
        intro e; have := hh.1 e; omega
      have hW' : writeDelimited f ++ rest = 0x0A :: 0x0A :: h :: (t ++ (encRow r ++ tl) ++ rest) := by
        simp only [writeDelimited, hL, varint_ten]
        rw [hE, hv]; simp
      rw [hW']
      simp [delimitedHint, hn]
    · rw [hW] at h3 ⊢
      exact hint_of_head_ne h' _ (fun e => hL (hh'.1 e)) h3

/-- A non-delimited stream (one frame written bare) that starts with its options row — as every
    valid stream does — is classified as non-delimited, whatever the length of that row (in
    particular 10 = 0x0A) and whatever follows. -/
theorem C08_hint_single (o : Options) (rows : List Row) (md : List (String × Bytes)) :
    delimitedHint ((writeSingle { rows := .options o :: rows, metadata := md }).take 3) = false := by
  obtain ⟨tl, hE⟩ := encFrame_cons { rows := .options o :: rows, metadata := md } (.options o) rows rfl
  obtain ⟨h, t, hv, hh⟩ := varint_cons (encRow (.options o)).length
  have hO : encRow (.options o) = 0x0A :: (varint (encOptions o).length ++ encOptions o) := by
    simp [encRow, lenDelim_one]
  by_cases hn : (encRow (.options o)).length = 10
  · simp only [writeSingle, hE, hn, varint_ten]
    rw [hO]
    simp [delimitedHint]
  · have hne : h ≠ 10 := fun e => hn (hh.1 e)
    simp only [writeSingle, hE, hv]
    rw [hO]
    cases t with
    | nil => simp [delimitedHint]
    | cons c t' => simp [delimitedHint, hne]

theorem C08_hint_prefix (b : Bytes) (n : Nat) (hn : 3 ≤ n) : delimitedHint (b.take n) = delimitedHint (b.take 3) := by
  obtain ⟨k, rfl⟩ : ∃ k, n = k + 3 := ⟨n - 3, by omega⟩
  match b with
  | [] => simp
  | [_] => simp
  | [_, _] => simp
  | _ :: _ :: _ :: _ => simp [delimitedHint]

/-- C09: on a raw non-seekable source the parse result is the one obtained from an in-memory buffer,
    for EVERY read schedule (sequence of short-read sizes, down to one byte at a time). After the
    header has been collected and put back, every read is a `BufferedReader.read(n)`, which loops
    until it has n bytes or the source ends, so the rest of the schedule cannot matter (the model has
    no further dependence on it). -/
theorem C09_schedule_independent (b : Bytes) (sched : List Nat) (strict quoted : Bool) :
    parseFlat (.rawNonSeekable sched) b strict quoted = parseFlat .seekable b strict quoted ∧
    parseGrouped (.rawNonSeekable sched) b strict quoted = parseGrouped .seekable b strict quoted ∧
    parseToGraph (.rawNonSeekable sched) b quoted = parseToGraph .seekable b quoted := by
  have hH : SourceKind.header (.rawNonSeekable sched) b = SourceKind.header .seekable b :=
    SourceKind.header_eq_take _ b
  have hG : getOptionsAndFrames (.rawNonSeekable sched) b = getOptionsAndFrames .seekable b := by
    simp only [getOptionsAndFrames, hH]
  simp only [parseFlat, parseGrouped, parseToGraph, parseCore, hG, and_self]

theorem C09_any_two_schedules (b : Bytes) (s1 s2 : List Nat) (strict quoted : Bool) :
    parseFlat (.rawNonSeekable s1) b strict quoted = parseFlat (.rawNonSeekable s2) b strict quoted := by
  rw [(C09_schedule_independent b s1 strict quoted).1, (C09_schedule_independent b s2 strict quoted).1]

/-- Regression witness for the repaired defect (`fixed: C09-short-first-read`): the 17-byte stream
    `writeDelimited { rows := [.options o] }` read one byte at a time is detected as delimited and
    parses as it does from memory. (Before the repair `peek(3)` saw a one-byte header, answered
    "non-delimited", and the parse failed with a decode error.) -/
theorem C09_regression_witness :
    parseFlat (.rawNonSeekable [1, 1, 1, 1]) [16, 10, 14, 10, 12, 16, 1, 72, 8, 80, 8, 88, 8, 112, 1, 120, 1] false true =
      { events := [], err := none } ∧
    delimitedHint (SourceKind.header (.rawNonSeekable [1, 1]) [4, 0x0A, 2, 0x0A, 0]) =
      delimitedHint (SourceKind.header .seekable [4, 0x0A, 2, 0x0A, 0]) := by
  decide

/-- The same stream is indeed what the writer produces. -/
theorem C09_witness_bytes :
    writeDelimited { rows := [.options
      { physicalType := 1, maxNames := 8, maxPrefixes := 8, maxDatatypes := 8, logicalType := 1, version := 1 }] } =
    [16, 10, 14, 10, 12, 16, 1, 72, 8, 80, 8, 88, 8, 112, 1, 120, 1] := by
  have hv : ∀ n, n < 128 → varint n = [n.toUInt8] := varint_lt
  simp [writeDelimited, encFrame, lenDelim, tag, encRow, encOptions, strField, uintField, boolField,
    encMetaEntry, hv]

end Jelly
